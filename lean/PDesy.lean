/- The model of pDESy (`Model`), the helper lemmas in the order of the module map in DESIGN.md II.1
   (`Lemmas`), and the property theorems by number (`Props`). -/
import PDesy.Model.Basic
import PDesy.Model.Types
import PDesy.Model.Priority
import PDesy.Model.Phases
import PDesy.Model.Sim
import PDesy.Model.Trace
import PDesy.Model.Report
import PDesy.Model.LogEdit
import PDesy.Model.Backward
import PDesy.Model.Persist
import PDesy.Model.SubProject
import PDesy.Model.Ser

import PDesy.Lemmas.Defs
import PDesy.Lemmas.ListFacts
import PDesy.Lemmas.Frame
import PDesy.Lemmas.TaskState
import PDesy.Lemmas.Finish
import PDesy.Lemmas.Loop
import PDesy.Lemmas.Sort
import PDesy.Lemmas.AllocLoop
import PDesy.Lemmas.Wave
import PDesy.Lemmas.PertSpec
import PDesy.Lemmas.PertBase
import PDesy.Lemmas.Pert
import PDesy.Lemmas.PertIdem
import PDesy.Lemmas.PertShift
import PDesy.Lemmas.LogKey
import PDesy.Lemmas.Fast
import PDesy.Lemmas.Logs
import PDesy.Lemmas.Runs
import PDesy.Lemmas.Lifecycle
import PDesy.Lemmas.Alloc
import PDesy.Lemmas.Perform
import PDesy.Lemmas.Elig
import PDesy.Lemmas.Place
import PDesy.Lemmas.NoWait
import PDesy.Lemmas.Unplaced
import PDesy.Lemmas.Edit
import PDesy.Lemmas.Auto
import PDesy.Lemmas.Live
import PDesy.Lemmas.LiveGate
import PDesy.Lemmas.Idem
import PDesy.Lemmas.Order
import PDesy.Lemmas.Removal
import PDesy.Lemmas.SlackShift
import PDesy.Lemmas.PersistLemmas
import PDesy.Lemmas.BackwardLemmas

import PDesy.Props.C01
import PDesy.Props.C02
import PDesy.Props.C03
import PDesy.Props.C04
import PDesy.Props.C05
import PDesy.Props.C05Live
import PDesy.Props.C05LiveGate
import PDesy.Props.C06
import PDesy.Props.C06Pairs
import PDesy.Props.C06Unplaced
import PDesy.Props.C07
import PDesy.Props.C08
import PDesy.Props.C09Det
import PDesy.Props.C09Order
import PDesy.Props.C10
import PDesy.Props.C10Removal
import PDesy.Props.C10Slack
import PDesy.Props.C11Sort
import PDesy.Props.C11Inv
import PDesy.Props.C11Pairs
import PDesy.Props.C12
import PDesy.Props.C13
import PDesy.Props.C14
import PDesy.Props.C15
import PDesy.Props.C15General
import PDesy.Props.C16
import PDesy.Props.C17
import PDesy.Props.C17Start
import PDesy.Props.C18
import PDesy.Props.C19
import PDesy.Props.C20
