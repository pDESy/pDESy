/-
  PDesy.Props.C09Order — C09 (second half): "Simulation results are independent of object
  identity."

  pDESy iterates over Python `set`s of tasks / components in `__check_finished`,
  `__check_working` and `check_removing_placed_workplace`, and did so in the waves of the PERT
  update until the repair F28 (since then the waves are visited in `task_list` order); the
  iteration order of a `set` of objects depends on their hashes (memory addresses).  In the model
  these phases take the visiting order as an explicit argument (`chkFinishedOrd`, `chkWorkingOrd`,
  `chkRemoveOrd`; `Order.pertOrd` for PERT, with `pert m = pertOrd m (canonSet m.nT)`), and the
  theorems say that the result is the same for every order: the three phases on every network
  (`C09_order_finished` under the allocation invariant, which is needed:
  `C09_order_finished_needs_inv`), the PERT update on finish-to-start networks only
  (`C09_order_pert_fs`; with FF links the stored values DO depend on the order,
  `C09_order_pert_ff_counterexample`: this is how F28 was found).  The whole-run theorems therefore
  come in two forms: PERT order canonical on every network, PERT order free on finish-to-start
  networks (`_fs`).

  "Any order" is always "any list with the same members" (order AND multiplicity are free); the
  `_perm` variants restate the results for permutations of `List.range n`.

  The theorems instantiate `Order.chkFinishedOrd_congr`, `chkWorkingOrd_congr`, `chkRemoveOrd_congr`,
  `pertOrd_eq_pert` and, for whole runs, `simulateOrd_eq`, `simulateOrd_eq_fs` (Lemmas/Order).
-/
import PDesy.Lemmas.Order
import PDesy.Props.C03
import PDesy.Props.C12

namespace PDesy
open PDesy.Order PDesy.PertSpec PDesy.Finish

/-- **C09 (order), `__check_finished`.**  On a state satisfying the allocation invariant, two
visiting orders that list the same tasks of the model (in any order, with any multiplicity)
give exactly the same state after `check_state(FINISHED)`: the same tasks are FINISHED (the
least set closed under "WORKING, no work left, finish gate open"), and the same workers and
facilities are released. -/
theorem C09_order_finished (m : Model) (o₁ o₂ : List Nat) (l : Live)
    (hm : ∀ t, t ∈ o₁ ↔ t ∈ o₂) (h1 : ∀ t ∈ o₁, t < m.nT) (hl : AllocInv m l) :
    chkFinishedOrd m o₁ l = chkFinishedOrd m o₂ l :=
  chkFinishedOrd_congr hl o₁ o₂ hm h1

/-- The same for a permutation of the task list: the result is that of the model's
`chkFinished` (which visits `0, 1, …, nT-1`). -/
theorem C09_order_finished_perm (m : Model) (order : List Nat) (l : Live)
    (hp : order.Perm (List.range m.nT)) (hl : AllocInv m l) :
    chkFinishedOrd m order l = chkFinished m l :=
  C09_order_finished m order (List.range m.nT) l (fun _ => hp.mem_iff)
    (fun _ ht => List.mem_range.mp (hp.mem_iff.mp ht)) hl

/-- Task states and remaining work after `check_state(FINISHED)` do not depend on the visiting
order for ANY input state (no invariant needed). -/
theorem C09_order_finished_states (m : Model) (o₁ o₂ : List Nat) (l : Live)
    (hm : ∀ t, t ∈ o₁ ↔ t ∈ o₂) (h1 : ∀ t ∈ o₁, t < m.nT) :
    (chkFinishedOrd m o₁ l).tstate = (chkFinishedOrd m o₂ l).tstate ∧
    (chkFinishedOrd m o₁ l).rem = (chkFinishedOrd m o₂ l).rem :=
  chkFinishedOrd_order_indep o₁ o₂ hm h1 l

/-- Under `AllocInv` the whole result is the closed form `Order.finForm` of the input state and
the final task states: a newly FINISHED task has remaining work 0 and empty allocation lists,
exactly the workers / facilities it held are FREE and unassigned, nothing else changes. -/
theorem C09_finished_form (m : Model) (order : List Nat) (l : Live) (hl : AllocInv m l) :
    chkFinishedOrd m order l = finForm l (chkFinishedOrd m order l).tstate :=
  chkFinishedOrd_form hl order

/-- **C09 (order), `__check_working`.**  Two visiting orders with the same members give the
same state after `check_state(WORKING)`, for every input state: the targets are computed on the
state before the phase, and starting two tasks commutes (and is idempotent). -/
theorem C09_order_working (m : Model) (o₁ o₂ : List Nat) (l : Live)
    (hm : ∀ t, t ∈ o₁ ↔ t ∈ o₂) : chkWorkingOrd m o₁ l = chkWorkingOrd m o₂ l :=
  chkWorkingOrd_congr o₁ o₂ hm l

/-- The same for a permutation of the task list: the result is that of the model's `chkWorking`. -/
theorem C09_order_working_perm (m : Model) (order : List Nat) (l : Live)
    (hp : order.Perm (List.range m.nT)) : chkWorkingOrd m order l = chkWorking m l :=
  C09_order_working m order (List.range m.nT) l (fun _ => hp.mem_iff)

/-- **C09 (order), `check_removing_placed_workplace`.**  Two visiting orders with the same
members give the same state, for every input state (no placement invariant is needed: removing
two different components erases different elements of the workplaces' lists and clears different
`placed_workplace` entries, and `List.erase` commutes). -/
theorem C09_order_remove (m : Model) (o₁ o₂ : List Nat) (l : Live)
    (hm : ∀ c, c ∈ o₁ ↔ c ∈ o₂) : chkRemoveOrd m o₁ l = chkRemoveOrd m o₂ l :=
  chkRemoveOrd_congr o₁ o₂ hm l

/-- The same for a permutation of the component list: the result is that of the model's
`chkRemove`. -/
theorem C09_order_remove_perm (m : Model) (order : List Nat) (l : Live)
    (hp : order.Perm (List.range m.nC)) : chkRemoveOrd m order l = chkRemove m l :=
  C09_order_remove m order (List.range m.nC) l (fun _ => hp.mem_iff)

/-- **C09 (order), PERT update, finish-to-start networks.**  `Order.pertOrd m ord` is the wave
algorithm of `update_PERT_data` with every task set (the head set, the tail set and every wave)
iterated in the order `ord` chooses; `ord` may be anything that lists exactly the members of
the set that are tasks of the model (`OrdOK`).  On a consistent acyclic finish-to-start network
with non-negative remaining work the resulting state is the same for every such `ord` — it is
the state `pert` computes.

For networks with SS / FF / SF links this is NOT proved, and it is false:
see `C09_order_pert_ff_counterexample`. -/
theorem C09_order_pert_fs (m : Model) (ord : List Nat → List Nat) (time : Nat) (l : Live)
    (ho : OrdOK m.nT ord) (hfs : FSOnly m) (hok : GraphOK m) (hac : Acyclic m) (hn : 0 < m.nT)
    (hrem : ∀ t, t < m.nT → 0 ≤ l.rem t) :
    pertOrd m ord time l = pert m time l :=
  pertOrd_eq_pert ho hfs hok hac hn time l hrem

/-- with the canonical order `pertOrd` is `pert`, on every network -/
theorem C09_pertOrd_canon (m : Model) (time : Nat) (l : Live) :
    pertOrd m (canonSet m.nT) time l = pert m time l :=
  pertOrd_canon m time l

/-- The same in specification form (this is `C12_eq_spec`): on a finish-to-start network ANY
procedure `pert'` whose output solves the PERT/CPM equations — for instance the wave algorithm
run with any other iteration order, by `C09_order_pert_fs` — agrees with `pert` on the critical
path length and on `est/eft/lst/lft` of every task of the model. -/
theorem C09_order_pert_fs_spec (m : Model) (time : Nat) (l : Live) (pert' : Live → Live)
    (hfs : FSOnly m) (hok : GraphOK m) (hac : Acyclic m) (hn : 0 < m.nT)
    (hrem : ∀ t, t < m.nT → 0 ≤ l.rem t)
    (hs : PertEqs m (time : Rat) l (pert' l).est (pert' l).eft (pert' l).lst (pert' l).lft
      (pert' l).cpl) :
    (pert m time l).cpl = (pert' l).cpl ∧ ∀ t, t < m.nT →
      (pert m time l).est t = (pert' l).est t ∧ (pert m time l).eft t = (pert' l).eft t ∧
      (pert m time l).lst t = (pert' l).lst t ∧ (pert m time l).lft t = (pert' l).lft t :=
  C12_eq_spec m time l hfs hok hac hn hrem hs

/-- **One `__update`.**  On a state satisfying the allocation invariant, `__update` with
`__check_finished` visiting the tasks in the order `oF` and
`check_removing_placed_workplace` visiting the components in the order `oR` (any lists with
exactly the tasks / components of the model as members) equals the model's `update`. -/
theorem C09_update_order (m : Model) (oF oR : List Nat) (time : Nat) (l : Live)
    (hF : ∀ t, t ∈ oF ↔ t < m.nT) (hR : ∀ c, c ∈ oR ↔ c < m.nC) (hl : AllocInv m l) :
    updateOrd m (canonSet m.nT) oF oR time l = update m time l :=
  updateOrd_canon hl oF oR hF hR time

/-- **One loop body** (allocation … record), with `__check_working` visiting the tasks in the
order `oW`: equal to the model's `stepBody`, for every state. -/
theorem C09_step_order (m : Model) (oW : List Nat) (p : Params) (s : St)
    (hW : ∀ t, t ∈ oW ↔ t < m.nT) : stepBodyOrd m oW p s = stepBody m p s :=
  stepBodyOrd_eq oW hW p s

/-- **The whole loop.**  `o : Orders` chooses, at every iteration and as an arbitrary function
of the whole project state, the orders in which `__check_finished`,
`check_removing_placed_workplace` and `__check_working` visit their sets (`o.Valid`: each lists
exactly the tasks / components of the model); the PERT waves are visited in index order
(`o.CanonPert`).  From a state satisfying the allocation invariant with every holder WORKING,
the loop run with these orders returns exactly the state the model's `loop` returns (logs
included, so every recorded step agrees). -/
theorem C09_loop_order (m : Model) (o : Orders) (p : Params) (fuel : Nat) (s : St)
    (ho : o.Valid m) (hc : o.CanonPert m) (h : AllocInv m s.live ∧ HoldWorking s.live) :
    loopOrd m o p fuel s = loop m p fuel s :=
  loopOrd_eq ho hc p fuel s h

/-- **The whole `simulate`** (with `initialize_state_info=True`, from any project state): independent
of the three iteration orders. -/
theorem C09_simulate_order (m : Model) (o : Orders) (p : Params) (s : St)
    (ho : o.Valid m) (hc : o.CanonPert m) (hp : p.initState = true) :
    simulateOrd m o p s = simulate m p s :=
  simulateOrd_eq ho hc p s (C03_init hp)

/-- … and a continued run (`initialize_state_info=False`) from a state satisfying the invariant. -/
theorem C09_simulate_order_continue (m : Model) (o : Orders) (p : Params) (s : St)
    (ho : o.Valid m) (hc : o.CanonPert m) (hp : p.initState = false)
    (h : AllocInv m s.live ∧ HoldWorking s.live) :
    simulateOrd m o p s = simulate m p s :=
  simulateOrd_eq ho hc p s ((Lifecycle.enter_live_continue m hp s).symm ▸ h)

/-! On finish-to-start networks every order is free, the PERT one included. -/

/-- **One `__update`, finish-to-start network**: the PERT waves may be visited in any order
too.  `Idem.RemOK`: no non-WORKING task has negative remaining work (an invariant of runs). -/
theorem C09_update_order_fs (m : Model) (ord : List Nat → List Nat) (oF oR : List Nat) (time : Nat)
    (l : Live) (hn : FSNet m) (ho : OrdOK m.nT ord) (hF : ∀ t, t ∈ oF ↔ t < m.nT)
    (hR : ∀ c, c ∈ oR ↔ c < m.nC) (hl : AllocInv m l) (hr : Idem.RemOK m l) :
    updateOrd m ord oF oR time l = update m time l :=
  updateOrd_eq_fs hn hl hr ho oF oR hF hR time

/-- **The whole loop, finish-to-start network**: all four iteration orders arbitrary. -/
theorem C09_loop_order_fs (m : Model) (o : Orders) (p : Params) (fuel : Nat) (s : St)
    (hn : FSNet m) (ho : o.Valid m)
    (h : AllocInv m s.live ∧ HoldWorking s.live ∧ Idem.RemOK m s.live) :
    loopOrd m o p fuel s = loop m p fuel s :=
  loopOrd_eq_fs hn ho p fuel s h

/-- **The whole `simulate`, finish-to-start network** with non-negative work amounts and
default progress ≤ 1 (`Idem.WorkOK`), `initialize_state_info=True`, from any project state: the
result does not depend on any of the four iteration orders. -/
theorem C09_simulate_order_fs (m : Model) (o : Orders) (p : Params) (s : St)
    (hn : FSNet m) (hw : Idem.WorkOK m) (ho : o.Valid m) (hp : p.initState = true) :
    simulateOrd m o p s = simulate m p s :=
  have h0 := C03_init (m := m) (s := s) hp
  simulateOrd_eq_fs hn hw ho p s ⟨h0.1, h0.2, Idem.RemOK_enter m hw p s hp⟩

namespace C09OrderEx

def base : Model :=
  { nT := 0, nW := 0, nF := 0, nTeam := 0, nWp := 0, nC := 0, task := fun _ => {},
    worker := fun _ => {}, fac := fun _ => {}, team := fun _ => {}, wp := fun _ => {},
    comp := fun _ => {} }

/-- an FF chain `0 →FF 1 →FF 2` -/
def mF : Model :=
  { base with
    nT := 3
    nW := 3
    task := fun t => match t with
      | 0 => { outputs := [(1, .ff)] }
      | 1 => { inputs := [(0, .ff)], outputs := [(2, .ff)] }
      | 2 => { inputs := [(1, .ff)] }
      | _ => {} }

/-- all three tasks WORKING with no work left, task `t` holding worker `t` -/
def lF : Live :=
  { Live.empty with
    tstate := fun t => if t < 3 then .working else .none
    allocW := fun t => if t < 3 then [t] else []
    wasg := fun w => if w < 3 then [w] else []
    wstate := fun w => if w < 3 then .working else .free }

theorem lF_inv : AllocInv mF lF where
  w_two t w := by simp only [lF]; split <;> split <;> simp <;> omega
  f_two t f := by simp [lF, Live.empty]
  w_excl w := by simp only [lF]; split <;> simp
  f_excl f := by simp [lF, Live.empty]
  w_nodup t := by simp only [lF]; split <;> simp
  f_nodup t := by simp [lF, Live.empty]
  fac_only t := by simp [lF, Live.empty]
  holder t := by simp only [lF]; split <;> simp [Live.empty]

/-- premises of `C09_order_finished(_perm)`: `[2, 1, 0]` is a permutation of the task list and
the state satisfies the invariant -/
example : [2, 1, 0].Perm (List.range mF.nT) ∧ AllocInv mF lF :=
  ⟨by decide, lF_inv⟩

/-- ONE pass depends on the order: along `0, 1, 2` the whole chain finishes, along `2, 1, 0`
only task 0 does (the FF gates of 1 and 2 are still closed when they are visited) … -/
example :
    (List.range 3).map (finishPass mF [0, 1, 2] lF).tstate = [.finished, .finished, .finished] ∧
    (List.range 3).map (finishPass mF [2, 1, 0] lF).tstate = [.finished, .working, .working] := by
  decide +kernel

/-- … but the closure does not (here checked by evaluation; in general by the theorem): the
reversed order needs three passes and ends in the same state, all workers released. -/
example :
    (List.range 3).map (chkFinishedOrd mF [2, 1, 0] lF).tstate = [.finished, .finished, .finished] ∧
    (List.range 3).map (chkFinishedOrd mF [2, 1, 0] lF).wasg = [[], [], []] ∧
    (List.range 3).map (chkFinishedOrd mF [2, 1, 0] lF).wstate = [.free, .free, .free] ∧
    (List.range 3).map (chkFinished mF lF).tstate = [.finished, .finished, .finished] ∧
    (List.range 3).map (chkFinished mF lF).wasg = [[], [], []] := by
  decide +kernel

example : chkFinishedOrd mF [2, 1, 0] lF = chkFinished mF lF :=
  C09_order_finished_perm mF [2, 1, 0] lF (by decide) lF_inv

/-- two independent tasks -/
def m2 : Model := { base with nT := 2, nW := 1 }

/-- both WORKING with no work left and sharing worker 0 — this violates `AllocInv`
(exclusivity), and never happens in a run (C03) -/
def lShare : Live :=
  { Live.empty with
    tstate := fun t => if t < 2 then .working else .none
    allocW := fun t => if t < 2 then [0] else []
    wasg := fun w => if w = 0 then [0, 1] else []
    wstate := fun w => if w = 0 then .working else .free }

end C09OrderEx

/-- The hypothesis `AllocInv` of `C09_order_finished` cannot be dropped: when two finishing tasks
share a worker, the task left in the worker's `assigned_task_list` is the one visited FIRST
(`releaseW` fires only once every assigned task is FINISHED, and then removes only the current
one).  Task states and remaining work still agree (`C09_order_finished_states`). -/
theorem C09_order_finished_needs_inv :
    ¬ (∀ (m : Model) (o₁ o₂ : List Nat) (l : Live), (∀ t, t ∈ o₁ ↔ t ∈ o₂) →
        (∀ t ∈ o₁, t < m.nT) → chkFinishedOrd m o₁ l = chkFinishedOrd m o₂ l) := by
  intro h
  have h1 := h C09OrderEx.m2 [0, 1] [1, 0] C09OrderEx.lShare (by simp; omega)
    (by simp [C09OrderEx.m2])
  have h2 : (chkFinishedOrd C09OrderEx.m2 [0, 1] C09OrderEx.lShare).wasg 0 = [0] := by
    decide +kernel
  have h3 : (chkFinishedOrd C09OrderEx.m2 [1, 0] C09OrderEx.lShare).wasg 0 = [1] := by
    decide +kernel
  rw [h1, h3] at h2
  simp at h2

namespace C09OrderEx

/-- three READY tasks of the FF-chain model, each holding its worker (FREE before the phase) -/
def lW : Live :=
  { lF with tstate := fun t => if t < 3 then .ready else .none
            wstate := fun _ => .free }

/-- `C09_order_working`: a non-trivial instance (all three tasks start, all three workers turn
WORKING), evaluated for the reversed order, and the theorem applied to it -/
example :
    (List.range 3).map (chkWorkingOrd mF [2, 1, 0] lW).tstate = [.working, .working, .working] ∧
    (List.range 3).map (chkWorkingOrd mF [2, 1, 0] lW).wstate = [.working, .working, .working] ∧
    (List.range 3).map lW.wstate = [.free, .free, .free] := by
  decide +kernel
example : chkWorkingOrd mF [2, 1, 0] lW = chkWorking mF lW :=
  C09_order_working_perm mF [2, 1, 0] lW (by decide)

/-- two finished components placed at the same workplace -/
def mR : Model := { base with nC := 2, nWp := 1 }
def lR : Live :=
  { Live.empty with placed := fun c => if c < 2 then some 0 else Option.none
                    wpComps := fun p => if p = 0 then [0, 1] else [] }

/-- `C09_order_remove`: both components are removed (two erasures from the same list), in
either order -/
example :
    (chkRemoveOrd mR [1, 0] lR).wpComps 0 = [] ∧ (chkRemoveOrd mR [1, 0] lR).placed 1 = Option.none ∧
    (chkRemove mR lR).wpComps 0 = [] ∧ lR.wpComps 0 = [0, 1] := by
  decide +kernel
example : chkRemoveOrd mR [1, 0] lR = chkRemove mR lR :=
  C09_order_remove_perm mR [1, 0] lR (by decide)

/-- visit every set in DESCENDING index order -/
def rev (n : Nat) (xs : List Nat) : List Nat := (canonSet n xs).reverse

theorem rev_ok (n : Nat) : OrdOK n (rev n) := by
  intro xs x
  simp only [rev, List.mem_reverse]
  exact ordOK_canon n xs x

/-- five tasks with positive work: `0 →FS 3`, `1 →FF 2`, `2 →FS 4`, `3 →FF 4`.
Tasks 2 and 3 are in the same wave and both relax task 4 with the same `est = 1`:
`2 →FS 4` proposes `eft = 2`, `3 →FF 4` proposes `eft = max (eft 3) 2 = 6`; the update
`if est >= pre_est` lets the LAST one win. -/
def mP : Model :=
  { base with
    nT := 5
    task := fun t => match t with
      | 0 => { outputs := [(3, .fs)] }
      | 1 => { outputs := [(2, .ff)] }
      | 2 => { inputs := [(1, .ff)], outputs := [(4, .fs)] }
      | 3 => { inputs := [(0, .fs)], outputs := [(4, .ff)] }
      | 4 => { inputs := [(2, .fs), (3, .ff)] }
      | _ => {} }

def lP : Live :=
  { Live.empty with rem := fun t => match t with | 0 => 1 | 1 => 1 | 2 => 1 | 3 => 5 | 4 => 1 | _ => 0 }

/-- three tasks, task 0 with no work left (e.g. FINISHED): `0 →FS 2`, `1 →FF 2` -/
def mP3 : Model :=
  { base with
    nT := 3
    task := fun t => match t with
      | 0 => { outputs := [(2, .fs)] }
      | 1 => { outputs := [(2, .ff)] }
      | 2 => { inputs := [(0, .fs), (1, .ff)] }
      | _ => {} }

def lP3 : Live :=
  { Live.empty with rem := fun t => match t with | 0 => 0 | 1 => 5 | 2 => 1 | _ => 0 }

end C09OrderEx

/-- **The PERT values of a network with FF links depend on the iteration order of a wave.**
In the consistent acyclic 5-task network `C09OrderEx.mP` (FS and FF links, positive work) the
ascending order gives `eft 4 = 6` and critical path length 6, the descending order gives
`eft 4 = 2` and critical path length 2 (hence different `lst`, hence different TSLACK
priorities); all `est` agree.  The same with three tasks when one of them has no work left
(`C09OrderEx.mP3`).  So `C09_order_pert_fs` does not extend to FF links, and the whole-run
theorems for arbitrary networks fix the PERT order (`Orders.CanonPert`), as pDESy does since the
repair F28. -/
theorem C09_order_pert_ff_counterexample :
    (OrdOK 5 (C09OrderEx.rev 5) ∧ GraphOK C09OrderEx.mP ∧ Acyclic C09OrderEx.mP) ∧
    ((List.range 5).map (pert C09OrderEx.mP 0 C09OrderEx.lP).est = [0, 0, 0, 1, 1] ∧
     (List.range 5).map (pertOrd C09OrderEx.mP (C09OrderEx.rev 5) 0 C09OrderEx.lP).est
        = [0, 0, 0, 1, 1]) ∧
    ((List.range 5).map (pert C09OrderEx.mP 0 C09OrderEx.lP).eft = [1, 1, 1, 6, 6] ∧
     (List.range 5).map (pertOrd C09OrderEx.mP (C09OrderEx.rev 5) 0 C09OrderEx.lP).eft
        = [1, 1, 1, 6, 2]) ∧
    ((pert C09OrderEx.mP 0 C09OrderEx.lP).cpl = 6 ∧
     (pertOrd C09OrderEx.mP (C09OrderEx.rev 5) 0 C09OrderEx.lP).cpl = 2) ∧
    ((List.range 5).map (pert C09OrderEx.mP 0 C09OrderEx.lP).lst = [4, 4, 4, 5, 5] ∧
     (List.range 5).map (pertOrd C09OrderEx.mP (C09OrderEx.rev 5) 0 C09OrderEx.lP).lst
        = [0, 0, 0, 1, 1]) ∧
    ((pert C09OrderEx.mP3 0 C09OrderEx.lP3).eft 2 = 5 ∧
     (pertOrd C09OrderEx.mP3 (C09OrderEx.rev 3) 0 C09OrderEx.lP3).eft 2 = 1) :=
  ⟨⟨C09OrderEx.rev_ok 5, by decide +kernel, ⟨id, by decide +kernel⟩⟩, by decide +kernel⟩

/-- in particular the two orders give different states -/
theorem C09_order_pert_ff_ne :
    pertOrd C09OrderEx.mP (C09OrderEx.rev 5) 0 C09OrderEx.lP ≠ pert C09OrderEx.mP 0 C09OrderEx.lP := by
  intro h
  have h1 := C09_order_pert_ff_counterexample.2.2.2.1
  rw [h] at h1
  have := h1.1.symm.trans h1.2
  revert this
  decide +kernel

namespace C09OrderEx

/-- `C09_order_pert_fs` on the diamond of C12 (stale PERT fields, a zero remaining work): its
premises hold, and the descending order gives the same values (checked by evaluation) -/
example : OrdOK C12Ex.m.nT (rev 4) ∧ FSOnly C12Ex.m ∧ GraphOK C12Ex.m ∧ Acyclic C12Ex.m ∧
    0 < C12Ex.m.nT ∧ ∀ t, t < C12Ex.m.nT → 0 ≤ C12Ex.l.rem t :=
  ⟨rev_ok 4, C12Ex.m_premises⟩

example :
    let r := pertOrd C12Ex.m (rev 4) 2 C12Ex.l
    (List.range 4).map r.est = [2, 5, 5, 10] ∧ (List.range 4).map r.eft = [5, 7, 10, 10] ∧
    (List.range 4).map r.lst = [2, 8, 5, 10] ∧ (List.range 4).map r.lft = [5, 10, 10, 10] ∧
    r.cpl = 10 := by
  decide +kernel

example : pertOrd C12Ex.m (rev 4) 2 C12Ex.l = pert C12Ex.m 2 C12Ex.l :=
  have ⟨hfs, hok, hac, hn, hrem⟩ := C12Ex.m_premises
  C09_order_pert_fs C12Ex.m (rev 4) 2 C12Ex.l (rev_ok 4) hfs hok hac hn hrem

/-- every set visited in descending order, at every step -/
def revOrders (m : Model) : Orders where
  fin := fun _ => (List.range m.nT).reverse
  rem := fun _ => (List.range m.nC).reverse
  work := fun _ => (List.range m.nT).reverse
  pert := fun _ => rev m.nT

theorem revOrders_valid (m : Model) : (revOrders m).Valid m := by
  intro s
  refine ⟨?_, ?_, ?_, rev_ok m.nT⟩ <;> intro t <;> simp [revOrders]

/-- descending order for the three phases, canonical order for PERT -/
def revOrders3 (m : Model) : Orders := { revOrders m with pert := fun _ => canonSet m.nT }

theorem revOrders3_valid (m : Model) : (revOrders3 m).Valid m ∧ (revOrders3 m).CanonPert m := by
  refine ⟨?_, fun _ => rfl⟩
  intro s
  refine ⟨?_, ?_, ?_, ordOK_canon m.nT⟩ <;> intro t <;> simp [revOrders3, revOrders]

/-- premises of `C09_simulate_order` (any model) and of `C09_simulate_order_fs` on the two-task
finish-to-start model of C03 -/
example : (revOrders3 C03.exM).Valid C03.exM ∧ (revOrders3 C03.exM).CanonPert C03.exM ∧
    ({} : Params).initState = true :=
  ⟨(revOrders3_valid _).1, (revOrders3_valid _).2, rfl⟩

theorem exM_fs : FSNet C03.exM ∧ Idem.WorkOK C03.exM :=
  ⟨⟨by decide +kernel, by decide +kernel, ⟨id, by decide +kernel⟩, by decide⟩, by decide +kernel⟩

/-- premises of `C09_update_order`, `C09_step_order`, `C09_loop_order` and of their `_fs`
versions, on the two-task model of C03 in a state where task 0 is WORKING with worker 0 -/
example : (∀ t, t ∈ [1, 0] ↔ t < C03.exM.nT) ∧ (∀ c, c ∈ ([] : List Nat) ↔ c < C03.exM.nC) ∧
    AllocInv C03.exM (C03.exLw .working) ∧ HoldWorking (C03.exLw .working) ∧
    Idem.RemOK C03.exM (C03.exLw .working) ∧ FSNet C03.exM ∧ OrdOK C03.exM.nT (rev 2) := by
  refine ⟨?_, ?_, (C03.exLw_inv .working).1, (C03.exLw_inv .working).2, ?_, exM_fs.1, rev_ok 2⟩
  · intro t; simp [C03.exM]; omega
  · intro c; simp [C03.exM]
  · intro t _ _; simp [C03.exLw, Live.empty]

/-- the run with every set visited in descending order, evaluated: it is the run of
`C03.exM` shown in Props/C03.lean (three steps, worker 0 handed from task 0 to task 1) -/
example :
    (simulateOrd C03.exM (revOrders C03.exM) {} St.fresh).time = 3 ∧
    (simulateOrd C03.exM (revOrders C03.exM) {} St.fresh).status = .success ∧
    (simulateOrd C03.exM (revOrders C03.exM) {} St.fresh).logs.tState 1
      = [.none, .none, .working] ∧
    (simulate C03.exM {} St.fresh).logs.tState 1 = [.none, .none, .working] := by
  simp only [Fast.simulate_fast]; decide +kernel

example : simulateOrd C03.exM (revOrders C03.exM) {} St.fresh = simulate C03.exM {} St.fresh :=
  C09_simulate_order_fs C03.exM _ {} St.fresh exM_fs.1 exM_fs.2 (revOrders_valid _) rfl

end C09OrderEx

end PDesy

#print axioms PDesy.C09_order_finished
#print axioms PDesy.C09_order_finished_perm
#print axioms PDesy.C09_order_finished_states
#print axioms PDesy.C09_finished_form
#print axioms PDesy.C09_order_finished_needs_inv
#print axioms PDesy.C09_order_working
#print axioms PDesy.C09_order_working_perm
#print axioms PDesy.C09_order_remove
#print axioms PDesy.C09_order_remove_perm
#print axioms PDesy.C09_order_pert_fs
#print axioms PDesy.C09_pertOrd_canon
#print axioms PDesy.C09_order_pert_fs_spec
#print axioms PDesy.C09_order_pert_ff_counterexample
#print axioms PDesy.C09_order_pert_ff_ne
#print axioms PDesy.C09_update_order
#print axioms PDesy.C09_step_order
#print axioms PDesy.C09_loop_order
#print axioms PDesy.C09_simulate_order
#print axioms PDesy.C09_simulate_order_continue
#print axioms PDesy.C09_update_order_fs
#print axioms PDesy.C09_loop_order_fs
#print axioms PDesy.C09_simulate_order_fs
