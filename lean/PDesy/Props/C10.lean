/-
  PDesy.Props.C10 — "Absence is dead time": clause 1, a project-wide absence step
  (`C10_absence_step` …), clause 2, an individually absent worker or facility
  (`C10_worker_absent_now` …), and both read off the logs of a run (`C10_run_absence_entry`,
  `C10_run_absence_rem`).  Clause 3 is Props/C10Removal.

  * a step at time `k` is a project-wide absence step when `workingAt p k = false`
    (`k ∈ p.absence`); `stepBody` then skips `allocate`.
  * `Perform.preCost m p s1` is the live state at the cost/perform boundary of `stepBody` (`l4`).
  * `Perform.plainW`/`plainF` are the documented per-resource contributions (see C02).

  The theorems instantiate `stepBody_rem_off`, `stepBody_inactive`, `preCost_absence_keep` (Lemmas/Perform),
  `Lifecycle.stepBody_lists_off`, and `Logs.row_absence`, `Logs.run_rowAt`.
-/
import PDesy.Lemmas.Perform
import PDesy.Props.C02

namespace PDesy
open PDesy.Logs PDesy.Perform

variable {m : Model} {p : Params}

/-- **C10 (project absence step).**  At a step with `workingAt p s1.time = false`, with
`s2 = stepBody m p s1`:
(a) nothing is newly allocated: both allocation lists of every task and both assignment lists of
    every worker/facility are unchanged;
(b) a non-automatic task — and, when `perform_auto_task_while_absence_time` is off, every task —
    keeps its remaining work; so does every task that is not WORKING after the step;
(c) with the flag on, an automatic task `t < nT` that is WORKING after `check_state(WORKING)`
    (which runs at an absence step only when the flag is on) loses exactly its unit rate;
(d) every worker `< nW` and facility `< nF` gets the log entry ABSENCE and the cost entry 0, and
    every team, workplace, the organization and the project get the cost entry 0. -/
theorem C10_absence_step (s1 : St) (h : workingAt p s1.time = false) :
    -- (a)
    ((stepBody m p s1).live.allocW = s1.live.allocW ∧ (stepBody m p s1).live.allocF = s1.live.allocF ∧
     (stepBody m p s1).live.wasg = s1.live.wasg ∧ (stepBody m p s1).live.fasg = s1.live.fasg) ∧
    -- (b)
    (∀ t, (m.task t).isAuto = false ∨ p.autoFlag = false ∨ (stepBody m p s1).live.tstate t ≠ .working →
      (stepBody m p s1).live.rem t = s1.live.rem t) ∧
    -- (c)
    (∀ t, t < m.nT → (m.task t).isAuto = true → p.autoFlag = true →
      (stepBody m p s1).live.tstate t = .working →
      (stepBody m p s1).live.rem t = s1.live.rem t - (m.task t).autoRate) ∧
    -- (d)
    ((∀ w, w < m.nW → (stepBody m p s1).logs.wState w = s1.logs.wState w ++ [RS.absence] ∧
        (stepBody m p s1).logs.wCost w = s1.logs.wCost w ++ [0]) ∧
     (∀ f, f < m.nF → (stepBody m p s1).logs.fState f = s1.logs.fState f ++ [RS.absence] ∧
        (stepBody m p s1).logs.fCost f = s1.logs.fCost f ++ [0]) ∧
     (∀ a, a < m.nTeam → (stepBody m p s1).logs.teamCost a = s1.logs.teamCost a ++ [0]) ∧
     (∀ q, q < m.nWp → (stepBody m p s1).logs.wpCost q = s1.logs.wpCost q ++ [0]) ∧
     (stepBody m p s1).logs.orgCost = s1.logs.orgCost ++ [0] ∧
     (stepBody m p s1).logs.projCost = s1.logs.projCost ++ [0]) := by
  refine ⟨Lifecycle.stepBody_lists_off m p s1 (workingAt_false_iff.mp h),
    fun t ht => stepBody_rem_off p s1 t h ht, ?_, ?_⟩
  · intro t ht hauto hflag hw
    rw [stepBody_rem, if_pos ⟨ht, hw, Or.inr ⟨hflag, hauto⟩⟩, contrib_auto _ hauto]
  · rw [stepBody_logs]
    exact row_absence _ _ (by rw [stepBody_time, Nat.add_sub_cancel]; exact h)

/-- premises satisfiable: in the demo run time 1 is a project absence step, executed from the
state recorded after step 0 -/
example : ((runTrace demo demoP St.fresh)[0]?.map fun s => workingAt demoP (updated demo s).time) =
    some false := demo_states.2.1

/-- **C10 (project absence step, flag off: nothing happens).**  At a project-wide absence step
while `perform_auto_task_while_absence_time` is off, `check_state(WORKING)` is not run either: no
task changes its state (in particular nothing starts), no remaining work changes, and — for
every state `s1`, reachable or not — every worker `< nW` and facility `< nF` has live state
ABSENCE after the step.  (Allocation lists, logs and costs: `C10_absence_step` (a), (d).) -/
theorem C10_absence_step_idle (s1 : St) (h : workingAt p s1.time = false)
    (hf : p.autoFlag = false) :
    (stepBody m p s1).live.tstate = s1.live.tstate ∧
    (stepBody m p s1).live.rem = s1.live.rem ∧
    (∀ w, w < m.nW → (stepBody m p s1).live.wstate w = .absence) ∧
    (∀ f, f < m.nF → (stepBody m p s1).live.fstate f = .absence) := by
  -- the whole step is `absenceSet` and the component check, which writes component states only
  rw [stepBody_inactive p s1 (workingAt_false_iff.mp h) hf, compCheck_eq, absenceSet_eq]
  exact ⟨rfl, rfl, fun _ hw => if_pos hw, fun _ hlt => if_pos hlt⟩

/-- **C10 (project absence step, live states).**  With the flag off, every worker `< nW` and
facility `< nF` has live state ABSENCE after a project-wide absence step, from ANY state `s1`. -/
theorem C10_absence_live (s1 : St) (h : workingAt p s1.time = false) (hf : p.autoFlag = false) :
    (∀ w, w < m.nW → (stepBody m p s1).live.wstate w = .absence) ∧
    (∀ f, f < m.nF → (stepBody m p s1).live.fstate f = .absence) :=
  (C10_absence_step_idle s1 h hf).2.2

/-
  With `perform_auto_task_while_absence_time` ON the live-state statement — "every worker `< nW`
  and facility `< nF` has live state ABSENCE after the step, for every state `s1`" — is FALSE for
  arbitrary `s1`:

    theorem C10_absence_live' (s1 : St) (h : workingAt p s1.time = false) :
      (∀ w, w < m.nW → (stepBody m p s1).live.wstate w = .absence) ∧
      (∀ f, f < m.nF → (stepBody m p s1).live.fstate f = .absence)

  Counterexample (`c10Bad` below, with the flag set): a READY task that already holds a worker.
  `allocate` is skipped, but with the flag set `check_state(WORKING)` still runs, starts the task
  and marks its worker WORKING.  Such a state violates `HoldWorking` (C03), which holds at every
  reachable step boundary; with that hypothesis the statement is true for either value of the
  flag (`C10_absence_live_partial`).  With the flag off the same state is harmless
  (`C10_absence_live`).  The *logged* state and the cost are ABSENCE / 0 in any case
  (`C10_absence_step` (d)).
-/

/-- a READY task 0 holding worker 0, at time 1 of the demo parameters (an absence step) -/
def c10Bad : St := { St.fresh with
  time := 1
  live := { Live.empty with
    tstate := fun t => if t = 0 then .ready else .none
    allocW := fun t => if t = 0 then [0] else []
    wasg := fun w => if w = 0 then [0] else [] } }

/-- with the flag set the held worker is switched to WORKING at the absence step; with the flag
off (the premises of `C10_absence_step_idle` / `C10_absence_live`) it is ABSENCE and the task
stays READY -/
example : workingAt { demoP with autoFlag := true } c10Bad.time = false ∧ (0 : Nat) < demo.nW ∧
    (stepBody demo { demoP with autoFlag := true } c10Bad).live.wstate 0 = .working ∧
    workingAt demoP c10Bad.time = false ∧ demoP.autoFlag = false ∧
    (stepBody demo demoP c10Bad).live.wstate 0 = .absence ∧
    (stepBody demo demoP c10Bad).live.tstate 0 = .ready := by decide +kernel

/-- **C10 (project absence step, live states), either value of the flag, with the C03 hypothesis
explicit.**  If READY tasks hold nothing before the step (`ReadyEmpty`, a consequence of
`HoldWorking`), every worker `< nW` and facility `< nF` has live state ABSENCE after a
project-wide absence step.  (Needed only when the flag is set; with the flag off see
`C10_absence_live`.) -/
theorem C10_absence_live_partial (s1 : St) (h : workingAt p s1.time = false)
    (hre : ReadyEmpty s1.live) :
    (∀ w, w < m.nW → (stepBody m p s1).live.wstate w = .absence) ∧
    (∀ f, f < m.nF → (stepBody m p s1).live.fstate f = .absence) := by
  have ho := (ResInv_absenceSet m s1.time false s1.live).off
  obtain ⟨kw, kf⟩ := preCost_absence_keep p s1 hre
  rw [h] at kw kf
  rw [stepBody_wstate_preCost, stepBody_fstate_preCost]
  exact ⟨fun w hw => kw w (ho.1 w hw), fun f hf => kf f (ho.2 f hf)⟩

/-- the same from `HoldWorking`, the form `C03_trace` provides -/
theorem C10_absence_live_of_holdWorking (s1 : St) (h : workingAt p s1.time = false)
    (hh : HoldWorking s1.live) :
    (∀ w, w < m.nW → (stepBody m p s1).live.wstate w = .absence) ∧
    (∀ f, f < m.nF → (stepBody m p s1).live.fstate f = .absence) :=
  C10_absence_live_partial s1 h (readyEmpty_of_holdWorking hh)

example : HoldWorking (St.fresh).live :=
  (AllocInv_of_empty (m := demo) (fun _ => rfl) (fun _ => rfl) (fun _ => rfl) (fun _ => rfl)).2

/-- what an ABSENCE worker amounts to at the cost/perform boundary `l4`: no contribution (in the
model's and in the documented form, alone or paired with any facility) and no cost -/
theorem C10_worker_absent_now (l4 : Live) (wk : Bool) (w : Nat) (h : l4.wstate w = .absence) :
    (∀ name, wProgress m l4 name w = 0 ∧ plainW m l4 name w = 0 ∧
      ∀ f, wProgress m l4 name w * fProgress m l4 name f = 0) ∧
    wCostNow m l4 wk w = 0 ∧ showR wk (l4.wstate w) = .absence := by
  refine ⟨?_, ?_, ?_⟩
  · intro name
    have e := wProgress_zero (m := m) l4 name w (Or.inl h)
    refine ⟨e, plainW_zero l4 name w (Or.inl h), ?_⟩
    intro f; rw [e, Rat.zero_mul]
  · simp [wCostNow, h]
  · cases wk <;> simp [showR, h]

/-- The same for an ABSENCE facility, alone or paired with any worker. -/
theorem C10_fac_absent_now (l4 : Live) (wk : Bool) (f : Nat) (h : l4.fstate f = .absence) :
    (∀ name, fProgress m l4 name f = 0 ∧ plainF m l4 name f = 0 ∧
      ∀ w, wProgress m l4 name w * fProgress m l4 name f = 0) ∧
    fCostNow m l4 wk f = 0 ∧ showR wk (l4.fstate f) = .absence := by
  refine ⟨?_, ?_, ?_⟩
  · intro name
    have e := fProgress_zero (m := m) l4 name f (Or.inl h)
    refine ⟨e, plainF_zero l4 name f (Or.inl h), ?_⟩
    intro w; rw [e, Rat.mul_zero]
  · simp [fCostNow, h]
  · cases wk <;> simp [showR, h]

/-- **C10 (individual absence, worker).**  On a working step, a worker `w < nW` whose absence
list contains the step's time is ABSENCE after `absenceSet`, stays ABSENCE through `allocate`
(it is not in the free list, so it is never given) and `check_state(WORKING)` (only FREE members
of WORKING tasks are switched; READY tasks hold only what was given in this pass) — assuming
`HoldWorking` of the state before the step (C03).  Hence at the cost/perform boundary `l4` and in
the recorded state it contributes nothing to any task, is charged 0, and is logged ABSENCE. -/
theorem C10_individual_worker (s1 : St) (hwk : workingAt p s1.time = true)
    (hh : HoldWorking s1.live) (w : Nat) (hw : w < m.nW)
    (ha : (m.worker w).absence.contains s1.time = true) :
    (preCost m p s1).wstate w = .absence ∧ (stepBody m p s1).live.wstate w = .absence ∧
    (∀ name, wProgress m (preCost m p s1) name w = 0 ∧ plainW m (preCost m p s1) name w = 0 ∧
      ∀ f, wProgress m (preCost m p s1) name w * fProgress m (preCost m p s1) name f = 0) ∧
    wCostNow m (preCost m p s1) true w = 0 ∧
    (stepBody m p s1).logs.wState w = s1.logs.wState w ++ [RS.absence] ∧
    (stepBody m p s1).logs.wCost w = s1.logs.wCost w ++ [0] := by
  have h4 : (preCost m p s1).wstate w = .absence := by
    apply (preCost_absence_keep p s1 (readyEmpty_of_holdWorking hh)).1
    rw [hwk]
    exact (ResInv_absenceSet m _ true _).absent.1 w hw ha
  have h5 : (stepBody m p s1).live.wstate w = .absence := by rw [stepBody_wstate_preCost, h4]
  obtain ⟨c1, c2, _⟩ := C10_worker_absent_now (m := m) (preCost m p s1) true w h4
  obtain ⟨_, c3, c4⟩ := C10_worker_absent_now (m := m) (stepBody m p s1).live true w h5
  refine ⟨h4, h5, c1, c2, ?_, ?_⟩
  · rw [stepBody_logs, row_wState, if_pos hw, stepBody_time, Nat.add_sub_cancel, hwk, c4]
  · rw [stepBody_logs, row_wCost, if_pos hw, stepBody_time, Nat.add_sub_cancel, hwk, c3]

/-- **C10 (individual absence, facility).**  The same for a facility `f < nF`. -/
theorem C10_individual_fac (s1 : St) (hwk : workingAt p s1.time = true)
    (hh : HoldWorking s1.live) (f : Nat) (hf : f < m.nF)
    (ha : (m.fac f).absence.contains s1.time = true) :
    (preCost m p s1).fstate f = .absence ∧ (stepBody m p s1).live.fstate f = .absence ∧
    (∀ name, fProgress m (preCost m p s1) name f = 0 ∧ plainF m (preCost m p s1) name f = 0 ∧
      ∀ w, wProgress m (preCost m p s1) name w * fProgress m (preCost m p s1) name f = 0) ∧
    fCostNow m (preCost m p s1) true f = 0 ∧
    (stepBody m p s1).logs.fState f = s1.logs.fState f ++ [RS.absence] ∧
    (stepBody m p s1).logs.fCost f = s1.logs.fCost f ++ [0] := by
  have h4 : (preCost m p s1).fstate f = .absence := by
    apply (preCost_absence_keep p s1 (readyEmpty_of_holdWorking hh)).2
    rw [hwk]
    exact (ResInv_absenceSet m _ true _).absent.2 f hf ha
  have h5 : (stepBody m p s1).live.fstate f = .absence := by rw [stepBody_fstate_preCost, h4]
  obtain ⟨c1, c2, _⟩ := C10_fac_absent_now (m := m) (preCost m p s1) true f h4
  obtain ⟨_, c3, c4⟩ := C10_fac_absent_now (m := m) (stepBody m p s1).live true f h5
  refine ⟨h4, h5, c1, c2, ?_, ?_⟩
  · rw [stepBody_logs, row_fState, if_pos hf, stepBody_time, Nat.add_sub_cancel, hwk, c4]
  · rw [stepBody_logs, row_fCost, if_pos hf, stepBody_time, Nat.add_sub_cancel, hwk, c3]

/-- **C10 (individual absence) from `ResInv`.**  Alternatively, if the resource-state invariant of
C03 is known at the cost/perform boundary (`ResInv m time true l4`), the individually absent
worker/facility is ABSENCE there directly, with the same consequences
(`C10_worker_absent_now`, `C10_fac_absent_now`). -/
theorem C10_individual_of_resInv (time : Nat) (l4 : Live) (hres : ResInv m time true l4) :
    (∀ w, w < m.nW → (m.worker w).absence.contains time = true → l4.wstate w = .absence) ∧
    (∀ f, f < m.nF → (m.fac f).absence.contains time = true → l4.fstate f = .absence) :=
  hres.absent

/-- a concrete model with an individually absent worker: worker 0 is away at time 0 -/
def c10M : Model := { demo with
  worker := fun w =>
    if w = 0 then { team := 0, skills := [(0, 1)], cost := 3, absence := [0] }
    else demo.worker w }

/-- task 0 READY, nothing allocated yet, time 0 -/
def c10S : St := { St.fresh with
  live := { Live.empty with tstate := fun t => if t = 0 then .ready else .none } }

/-- premises satisfiable: time 0 is a working step, nothing is held, worker 0 is away … -/
example : HoldWorking c10S.live :=
  (AllocInv_of_empty (m := c10M) (fun _ => rfl) (fun _ => rfl) (fun _ => rfl) (fun _ => rfl)).2

example : workingAt demoP c10S.time = true ∧ (0 : Nat) < c10M.nW ∧
    (c10M.worker 0).absence.contains c10S.time = true := by decide +kernel

/-- … and the step indeed leaves task 0 without its only skilled worker, who is ABSENCE at no
cost (while at time 0 of the same run without the absence he is allocated and charged 3) -/
example : (stepBody c10M demoP c10S).live.wstate 0 = .absence ∧
    (stepBody c10M demoP c10S).live.allocW 0 = [] ∧
    (stepBody c10M demoP c10S).logs.wCost 0 = [0] ∧
    (stepBody demo demoP c10S).live.wstate 0 = .working ∧
    (stepBody demo demoP c10S).logs.wCost 0 = [3] := by
  decide +kernel

/-- **C10 (log).**  At every project-wide absence step `k` of a run (with `initLog = true`):
every worker and facility is logged ABSENCE, and every cost entry is 0. -/
theorem C10_run_absence_entry (s : St) (h : p.initLog = true) (k : Nat)
    (hk : k < (runTrace m p s).length) (hab : workingAt p k = false) :
    (∀ w, w < m.nW → ((simulate m p s).logs.wState w)[k]? = some RS.absence ∧
        ((simulate m p s).logs.wCost w)[k]? = some 0) ∧
    (∀ f, f < m.nF → ((simulate m p s).logs.fState f)[k]? = some RS.absence ∧
        ((simulate m p s).logs.fCost f)[k]? = some 0) ∧
    (∀ a, a < m.nTeam → ((simulate m p s).logs.teamCost a)[k]? = some 0) ∧
    (∀ q, q < m.nWp → ((simulate m p s).logs.wpCost q)[k]? = some 0) ∧
    (simulate m p s).logs.orgCost[k]? = some 0 ∧ (simulate m p s).logs.projCost[k]? = some 0 :=
  (hab ▸ run_rowAt (m := m) s h k hk).absence

/-- **C10 (log, no progress).**  If step `k+1` of a run is a project-wide absence step, then for
a non-automatic task (or any task when `perform_auto_task_while_absence_time` is off) entry `k+1`
of the remaining-work log equals entry `k` — except that it is 0 when the task's logged state
turns FINISHED between the two entries (the `__update` block reports a finished task's remaining
work as 0). -/
theorem C10_run_absence_rem (s : St) (h : p.initLog = true) (k : Nat)
    (hk : k + 1 < (runTrace m p s).length) (hab : workingAt p (k + 1) = false)
    (t : Nat) (ht : t < m.nT) (hna : (m.task t).isAuto = false ∨ p.autoFlag = false) :
    ∃ a b, ((simulate m p s).logs.tRem t)[k]? = some a ∧
      ((simulate m p s).logs.tRem t)[k + 1]? = some b ∧
      b = (if ((simulate m p s).logs.tState t)[k + 1]? = some .finished ∧
              ((simulate m p s).logs.tState t)[k]? ≠ some .finished then 0 else a) := by
  obtain ⟨a, b, h1, h2, h3⟩ := C02_run_log (m := m) s h k hk t ht
  refine ⟨a, b, h1, h2, ?_⟩
  have hd : ¬ (((runTrace m p s)[k + 1]).live.tstate t = .working ∧
      (workingAt p (k + 1) = true ∨ (p.autoFlag = true ∧ (m.task t).isAuto = true))) := by
    rw [hab]
    rintro ⟨_, hact | ⟨hf, hauto⟩⟩
    · cases hact
    · rcases hna with hna | hna
      · rw [hna] at hauto; cases hauto
      · rw [hna] at hf; cases hf
  rw [h3, if_neg hd, sub_zero]

example : demoP.initLog = true ∧ 1 < (runTrace demo demoP St.fresh).length ∧
    workingAt demoP 1 = false := by
  rw [demo_run.2.2.1]
  decide

end PDesy

#print axioms PDesy.C10_absence_step
#print axioms PDesy.C10_absence_step_idle
#print axioms PDesy.C10_absence_live
#print axioms PDesy.C10_absence_live_partial
#print axioms PDesy.C10_absence_live_of_holdWorking
#print axioms PDesy.C10_worker_absent_now
#print axioms PDesy.C10_fac_absent_now
#print axioms PDesy.C10_individual_worker
#print axioms PDesy.C10_individual_fac
#print axioms PDesy.C10_individual_of_resInv
#print axioms PDesy.C10_run_absence_entry
#print axioms PDesy.C10_run_absence_rem
