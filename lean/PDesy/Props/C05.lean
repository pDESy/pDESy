/-
  PDesy.Props.C05 — safety half of "the simulation terminates within `max_time` and the
  reported status is truthful".

  * `simulate` is total by construction (structural recursion on fuel); what is proved here is
    that the fuel it passes (`fuelOf = max_time - time + 1`) is never what stops the loop: the
    result does not depend on the fuel once there is that much of it, and the loop always leaves
    through one of its two exits (so the status is SUCCESS or FAILURE).
  * SUCCESS is reported exactly when every task is FINISHED; FAILURE only at `time ≥ max_time`;
    no step is simulated at a time `≥ max_time`.
  * A non-automatic, not yet started task that no worker of the organisation is eligible for
    (`Elig.WorkerElig`) never finishes, so the run does not report SUCCESS.
  The theorems instantiate `Idem.loop_eq_run`, `Idem.run_verdict`, `Idem.run_failure` and
  `time_ge_loopInv`, `time_le_loopInv` (Lemmas/Loop), `Idle_loopInv` and `Idle_enter` (Lemmas/Elig).
-/
import PDesy.Lemmas.Elig

namespace PDesy
open Elig

/-- **C05 (status, loop level).** With at least `max_time - time + 1` units of fuel the loop
leaves through one of its two exits: the returned status is SUCCESS or FAILURE; it is SUCCESS
exactly when every task of the returned state is FINISHED; it is FAILURE only if the returned
time has reached `max_time`. -/
theorem C05_status_loop (m : Model) (p : Params) :
    ∀ fuel s, fuel ≥ p.maxTime - s.time + 1 →
      ((loop m p fuel s).status = .success ↔ allFinished m (loop m p fuel s).live = true) ∧
      ((loop m p fuel s).status = .failure → (loop m p fuel s).time ≥ p.maxTime) ∧
      ((loop m p fuel s).status = .success ∨ (loop m p fuel s).status = .failure) := by
  intro fuel s h
  rw [Idem.loop_eq_run m p fuel s h]
  exact Idem.run_verdict m p s

example : (5 : Nat) ≥ ({ maxTime := 4 } : Params).maxTime - St.fresh.time + 1 := by decide

/-- **C05 (status of `simulate`).** `simulate` returns SUCCESS or FAILURE; SUCCESS exactly when
every task is FINISHED in the returned state; FAILURE only when the returned time has reached
`max_time`. -/
theorem C05_status (m : Model) (p : Params) (s : St) :
    ((simulate m p s).status = .success ↔ allFinished m (simulate m p s).live = true) ∧
    ((simulate m p s).status = .failure → (simulate m p s).time ≥ p.maxTime) ∧
    ((simulate m p s).status = .success ∨ (simulate m p s).status = .failure) := by
  rw [simulate_eq]
  exact C05_status_loop m p _ _ (Nat.le_refl _)

/-- both outcomes occur: the example model finishes, the model with an unservable task fails -/
example : (simulate exF {} St.fresh).status = .success ∧
    (simulate exU { maxTime := 5 } St.fresh).status = .failure :=
  ⟨exF_run.1, exU_run.1⟩

/-- **C05 (fuel never runs out).** Any two amounts of fuel of at least `max_time - time + 1`
give the same final state: the loop is never stopped by its fuel. -/
theorem C05_fuel (m : Model) (p : Params) :
    ∀ fuel fuel' s, fuel ≥ p.maxTime - s.time + 1 → fuel' ≥ p.maxTime - s.time + 1 →
      loop m p fuel s = loop m p fuel' s := fun fuel fuel' s h h' =>
  (Idem.loop_eq_run m p fuel s h).trans (Idem.loop_eq_run m p fuel' s h').symm

/-- **C05 (no step at or beyond `max_time`).** Every executed step `s'` of the loop started from
`s` was simulated at time `s'.time - 1`, which is at least the starting time and strictly below
`max_time` (the body of the loop is only applied to states with `time < max_time`). -/
theorem C05_trace_time (m : Model) (p : Params) :
    ∀ fuel s, ∀ s' ∈ trace m p fuel s, s.time < s'.time ∧ s'.time - 1 < p.maxTime := by
  intro fuel s s' hs'
  -- a recorded state is `stepBody` of an updated state, not earlier than `s`, at which the loop
  -- does not exit
  obtain ⟨s0, h0, hd, rfl⟩ := (time_ge_loopInv m p s.time).trace_mem (Nat.le_refl _) fuel s' hs'
  rw [stepBody_time, Nat.add_sub_cancel]
  rw [Logs.updated_time] at h0
  exact ⟨Nat.lt_succ_of_le h0, (done_false hd).2⟩

/-- **C05 (no step of a run at or beyond `max_time`).** -/
theorem C05_run_time (m : Model) (p : Params) (s : St) :
    ∀ s' ∈ runTrace m p s, 1 ≤ s'.time ∧ s'.time - 1 < p.maxTime := fun s' hs' =>
  have h := C05_trace_time m p _ _ s' hs'
  ⟨Nat.succ_le_of_lt (Nat.lt_of_le_of_lt (Nat.zero_le _) h.1), h.2⟩

/-- the run of the failing example has exactly `max_time` recorded steps, the last one
simulated at time `max_time - 1` -/
example : (runTrace exU { maxTime := 5 } St.fresh).map (·.time) = [1, 2, 3, 4, 5] :=
  exU_run.2.2.2

/-- **C05 (returned time).** If the loop is entered at a time `≤ max_time` (for instance after
`initialize(log_info=True)`, which resets the time to 0), the returned time is `≤ max_time`. -/
theorem C05_final_time (m : Model) (p : Params) (fuel : Nat) (s : St) (h : s.time ≤ p.maxTime) :
    (loop m p fuel s).time ≤ p.maxTime :=
  (time_le_loopInv m p).loop h fuel

example : St.fresh.time ≤ ({ maxTime := 5 } : Params).maxTime := by decide

/-- **C05 (unservable task, loop level).** Let `t` be a non-automatic task that no worker of the
organisation is eligible for, that has not started (neither WORKING nor FINISHED) and holds no
worker, in a state that satisfies the allocation invariant of C04.  Then whatever the fuel, the
final state of the loop has `t` not FINISHED (it is still NONE or READY and still holds no
worker), hence not all tasks are FINISHED. -/
theorem C05_unservable_loop (m : Model) (p : Params) (s : St) (t : Nat) (ht : t < m.nT)
    (ha : (m.task t).isAuto = false) (hno : ∀ w, w < m.nW → ¬ WorkerElig m t w)
    (hI : EligInv m s.live)
    (hst : s.live.tstate t ≠ .working ∧ s.live.tstate t ≠ .finished)
    (h0 : s.live.allocW t = []) (fuel : Nat) :
    (loop m p fuel s).live.tstate t ≠ .finished ∧
    (loop m p fuel s).live.allocW t = [] ∧
    allFinished m (loop m p fuel s).live = false := by
  have key := ((Idle_loopInv m p t ht ha hno).loop ⟨.of_not_started hst h0, hI⟩ fuel).1
  exact ⟨key.not_finished, key.2, key.not_allFinished m ht⟩

/-- the hypotheses are satisfiable: task 1 of `exU` after initialisation -/
example : (1 < exU.nT) ∧ (exU.task 1).isAuto = false ∧ (∀ w, w < exU.nW → ¬ WorkerElig exU 1 w) ∧
    EligInv exU (enter exU {} St.fresh).live ∧
    ((enter exU {} St.fresh).live.tstate 1 ≠ .working ∧
      (enter exU {} St.fresh).live.tstate 1 ≠ .finished) ∧
    (enter exU {} St.fresh).live.allocW 1 = [] := by
  decide +kernel

/-- **C05 (unservable task, loop level, status).** … and with enough fuel the reported status is
FAILURE, not SUCCESS. -/
theorem C05_unservable_loop_status (m : Model) (p : Params) (s : St) (t : Nat) (ht : t < m.nT)
    (ha : (m.task t).isAuto = false) (hno : ∀ w, w < m.nW → ¬ WorkerElig m t w)
    (hI : EligInv m s.live)
    (hst : s.live.tstate t ≠ .working ∧ s.live.tstate t ≠ .finished)
    (h0 : s.live.allocW t = []) (fuel : Nat) (hfuel : fuel ≥ p.maxTime - s.time + 1) :
    (loop m p fuel s).status ≠ .success ∧ (loop m p fuel s).status = .failure := by
  have hall := (C05_unservable_loop m p s t ht ha hno hI hst h0 fuel).2.2
  rw [Idem.loop_eq_run m p fuel s hfuel] at hall ⊢
  exact Idem.run_failure m p s hall

/-- **C05 (a project with an unservable task does not report success).** In a forward run with
`initState = true`: if a non-automatic task `t` has no eligible worker in the organisation, and
— when the logs are reset too (`initLog = true`, the case in which `initialize` marks tasks whose
default progress is complete as FINISHED) — its default progress is below 1, then the returned
state has `t` not FINISHED and the reported status is FAILURE, never SUCCESS. -/
theorem C05_unservable (m : Model) (p : Params) (s : St) (hinit : p.initState = true)
    (t : Nat) (ht : t < m.nT) (ha : (m.task t).isAuto = false)
    (hno : ∀ w, w < m.nW → ¬ WorkerElig m t w)
    (hprog : p.initLog = true → (m.task t).prog < 1) :
    (simulate m p s).live.tstate t ≠ .finished ∧
    (simulate m p s).status ≠ .success ∧ (simulate m p s).status = .failure := by
  -- the task is idle when the loop is entered, hence in the returned state, which is by definition
  -- `Idem.run m p (enter m p s)`
  have key := ((Idle_loopInv m p t ht ha hno).run (s := s)
    ⟨Idle_enter m hinit s t hprog, EligInv_enter m hinit s⟩).2.2.1
  exact ⟨key.not_finished, Idem.run_failure m p (enter m p s) (key.not_allFinished m ht)⟩

/-- the hypotheses are satisfiable (task 1 of `exU`), and the conclusion is what the run does -/
example : ({ maxTime := 5 } : Params).initState = true ∧ (1 < exU.nT) ∧
    (exU.task 1).isAuto = false ∧ (∀ w, w < exU.nW → ¬ WorkerElig exU 1 w) ∧
    (({ maxTime := 5 } : Params).initLog = true → (exU.task 1).prog < 1) := by
  decide +kernel

example : (simulate exU { maxTime := 5 } St.fresh).status = .failure ∧
    (simulate exU { maxTime := 5 } St.fresh).live.tstate 0 = .finished ∧
    (simulate exU { maxTime := 5 } St.fresh).live.tstate 1 = .ready :=
  ⟨exU_run.1, exU_run.2.1, exU_run.2.2.1⟩

/-- the `prog < 1` hypothesis is needed: with complete default progress the unservable task is
FINISHED from the start and the run succeeds -/
example : (simulate { exU with task := fun t => { exU.task t with prog := if t = 1 then 1 else 0 } }
    { maxTime := 5 } St.fresh).status = .success := by
  simp only [Fast.simulate_fast]; decide +kernel

end PDesy

#print axioms PDesy.C05_status_loop
#print axioms PDesy.C05_status
#print axioms PDesy.C05_fuel
#print axioms PDesy.C05_trace_time
#print axioms PDesy.C05_run_time
#print axioms PDesy.C05_final_time
#print axioms PDesy.C05_unservable_loop
#print axioms PDesy.C05_unservable_loop_status
#print axioms PDesy.C05_unservable
