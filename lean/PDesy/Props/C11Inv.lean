/-
  PDesy.Props.C11Inv — property C11 (second half):
  "Allocation never inverts the priority order."

  During one allocation pass (`allocate`, i.e. `BaseProject.__allocate`) a free worker who is
  eligible for a higher-priority waiting task that can still accept a worker is never given to a
  lower-priority task.

  * "higher priority" = earlier in the sorted candidate list
    `sortTasks m l lg rule (NoWait.cands m l)` — the READY/WORKING tasks below `nT`, stably sorted
    by the key of the task rule (`C11_before_priority`, `C11_before_key`; the full description of
    the order is `C11_tasks` in `Props/C11Sort`);
  * "`t1` before `t2`" is stated as `List.Sublist [t1, t2] sorted` (the list has no duplicates,
    `C11_sorted_nodup`, so this means: `t1` occurs at a strictly smaller position than `t2`);
  * "eligible" = positive skill for the task and the worker's team is assigned to the task;
  * "can still accept" = `can_add_resources(worker=w)` = `canAdd m l' t1 (some w) none`, read in
    the state `l'` after the pass (refusals are stable during the pass, so this is also the answer
    the task gave at its own turn);
  * the higher-priority task `t1` is not automatic and needs no facility (the clause is claimed
    for such tasks); the lower-priority task `t2` is arbitrary.

  The no-inversion theorems instantiate `allocate_no_inversion`, `allocate_no_inversion_pos`,
  `stepBody_no_inversion` (Lemmas/NoWait) at `Offered.none`; the order facts come from `Props/C11Sort`.
-/
import PDesy.Lemmas.NoWait
import PDesy.Props.C11Sort

namespace PDesy

/-- The candidate list of the allocation pass has no duplicates, so "before" is unambiguous. -/
theorem C11_sorted_nodup (m : Model) (l : Live) (lg : Logs) (rule : TaskRule) :
    (sortTasks m l lg rule (NoWait.cands m l)).Nodup :=
  NoWait.sorted_nodup m l lg rule

/-- `allocate` walks exactly this list: it is the fold of `allocTask` over the sorted candidates,
starting from the FREE workers below `nW`. -/
theorem C11_allocate_order (m : Model) (lg : Logs) (rule : TaskRule) (l : Live) :
    allocate m lg rule l =
      ((sortTasks m l lg rule (NoWait.cands m l)).foldl (allocTask m)
        { l := l, free := Elig.freeOf m l }).l :=
  allocate_fold m lg rule l

/-- "Before in the list" means "priority at least as high": if `t1` precedes `t2` in the sorted
list then `t1` is `≤ t2` under the comparator of the rule. -/
theorem C11_before_priority (m : Model) (l : Live) (lg : Logs) (rule : TaskRule) (ts : List Nat)
    (t1 t2 : Nat) (h : List.Sublist [t1, t2] (sortTasks m l lg rule ts)) :
    taskLe m l lg rule t1 t2 = true := by
  simpa using (C11_tasks_generic m l lg rule ts).2.1.sublist h

/-- … i.e., in terms of the documented key `taskKey` of the rule (slack, EST, work amount, number
of READY log entries, remaining work, critical-path length): the earlier task's key is `≤` the
later one's for the ascending rules (TSLACK, EST, SPT, SRPT, SWRPT) and `≥` for the descending
ones (LPT, FIFO, LRPT, LWRPT). -/
theorem C11_before_key (m : Model) (l : Live) (lg : Logs) (rule : TaskRule) (ts : List Nat)
    (t1 t2 : Nat) (h : List.Sublist [t1, t2] (sortTasks m l lg rule ts)) :
    if taskRuleDesc rule then taskKey m l lg rule t2 ≤ taskKey m l lg rule t1
    else taskKey m l lg rule t1 ≤ taskKey m l lg rule t2 :=
  (Sort.taskLe_iff m l lg rule t1 t2).mp (C11_before_priority m l lg rule ts t1 t2 h)

/-- **C11, no inversion.**  Let `l' = allocate m lg rule l`.  If `t1` comes before `t2` in the
sorted candidate list, `t1` is not automatic and needs no facility, a worker `w` is newly given
to `t2` by this pass (`w ∈ l'.allocW t2`, `w ∉ l.allocW t2`) and `w` is eligible for `t1`
(positive skill, team assigned), then `t1` cannot accept `w`: `canAdd m l' t1 (some w) none =
false`.  (At `t1`'s turn `w` was still in the free list, so `t1` asked for it and was refused; the
reasons for a refusal — task state, a solo worker on or for the task, the fixed worker list —
cannot go away during the pass.)  No invariant of the incoming state is needed. -/
theorem C11_no_inversion (m : Model) (lg : Logs) (rule : TaskRule) (l : Live) (t1 t2 w : Nat)
    (hord : List.Sublist [t1, t2] (sortTasks m l lg rule (NoWait.cands m l)))
    (hna : (m.task t1).isAuto = false) (hnf : (m.task t1).needFac = false)
    (hnew : w ∈ (allocate m lg rule l).allocW t2) (hold : w ∉ l.allocW t2)
    (hskill : hasSkill (m.worker w).skills (m.task t1).name = true)
    (hteam : teamTargets m w t1 = true) :
    canAdd m (allocate m lg rule l) t1 (some w) Option.none = false :=
  NoWait.allocate_no_inversion m lg rule l hord hna (.none hnf) hnew hold hskill hteam

/-- **C11, no inversion**, contrapositive reading: a worker who is eligible for `t1` and whom
`t1` could still accept after the pass has not been newly given to any later task `t2`. -/
theorem C11_no_inversion' (m : Model) (lg : Logs) (rule : TaskRule) (l : Live) (t1 t2 w : Nat)
    (hord : List.Sublist [t1, t2] (sortTasks m l lg rule (NoWait.cands m l)))
    (hna : (m.task t1).isAuto = false) (hnf : (m.task t1).needFac = false)
    (hskill : hasSkill (m.worker w).skills (m.task t1).name = true)
    (hteam : teamTargets m w t1 = true)
    (hcan : canAdd m (allocate m lg rule l) t1 (some w) Option.none = true) :
    w ∈ (allocate m lg rule l).allocW t2 → w ∈ l.allocW t2 := fun hnew =>
  Decidable.byContradiction fun hold => Bool.false_ne_true
    ((C11_no_inversion m lg rule l t1 t2 w hord hna hnf hnew hold hskill hteam).symm.trans hcan)

/-- The same in positional form: the sorted list is `pre ++ t1 :: post` and `t2` lies in `post`. -/
theorem C11_no_inversion_pos (m : Model) (lg : Logs) (rule : TaskRule) (l : Live)
    (pre post : List Nat) (t1 t2 w : Nat)
    (hsorted : sortTasks m l lg rule (NoWait.cands m l) = pre ++ t1 :: post) (h2 : t2 ∈ post)
    (hna : (m.task t1).isAuto = false) (hnf : (m.task t1).needFac = false)
    (hnew : w ∈ (allocate m lg rule l).allocW t2) (hold : w ∉ l.allocW t2)
    (hskill : hasSkill (m.worker w).skills (m.task t1).name = true)
    (hteam : teamTargets m w t1 = true) :
    canAdd m (allocate m lg rule l) t1 (some w) Option.none = false :=
  NoWait.allocate_no_inversion_pos m lg rule l hsorted h2 hna (.none hnf) hnew hold hskill hteam

/-- **C11, no inversion, in one loop step.**  On a working step (`s.time` is not a project absence
time) the allocation pass runs on the state after the absence update, whose candidate order is
that of `s.live` with the logs `s.logs`.  If `t1` comes before `t2` in that order, `t1` is not
automatic and needs no facility, `w` is held by `t2` at the end of the step but was not before,
and `w` is eligible for `t1`, then at the end of the step `t1` cannot accept `w`. -/
theorem C11_no_inversion_step (m : Model) (p : Params) (s : St)
    (hwork : p.absence.contains s.time = false) (t1 t2 w : Nat)
    (hord : List.Sublist [t1, t2] (sortTasks m s.live s.logs p.rule (NoWait.cands m s.live)))
    (hna : (m.task t1).isAuto = false) (hnf : (m.task t1).needFac = false)
    (hnew : w ∈ (stepBody m p s).live.allocW t2) (hold : w ∉ s.live.allocW t2)
    (hskill : hasSkill (m.worker w).skills (m.task t1).name = true)
    (hteam : teamTargets m w t1 = true) :
    canAdd m (stepBody m p s).live t1 (some w) Option.none = false :=
  NoWait.stepBody_no_inversion m p s hwork hord hna (.none hnf) hnew hold hskill hteam

namespace C11InvEx

/-- two READY tasks (task 0 first under every rule's stable order), two workers of the tasks'
team: worker 0 works alone and can only do task 0, worker 1 can do both -/
def m : Model where
  nT := 2
  nW := 2
  nF := 0
  nTeam := 1
  nWp := 0
  nC := 0
  task := fun t => if t = 0 then { name := 0, work := 3 } else { name := 1, work := 2 }
  worker := fun w =>
    if w = 0 then { team := 0, skills := [(0, 1)], solo := true }
    else { team := 0, skills := [(0, 1), (1, 1)] }
  fac := fun _ => {}
  team := fun _ => { workers := [0, 1], targets := [0, 1] }
  wp := fun _ => {}
  comp := fun _ => {}

def l : Live := { Live.empty with tstate := fun t => if t < 2 then .ready else .none }

theorem order : sortTasks m l Logs.empty .tslack (NoWait.cands m l) = [0, 1] := by decide +kernel

end C11InvEx

/-- the hypotheses of `C11_no_inversion` hold non-trivially: task 0 precedes task 1; the pass
gives the solo worker 0 to task 0 and then worker 1 — who is eligible for task 0 as well — to
task 1; task 0 could not take worker 1 (a solo worker is on it) -/
example :
    sortTasks C11InvEx.m C11InvEx.l Logs.empty .tslack (NoWait.cands C11InvEx.m C11InvEx.l) = [0, 1] ∧
    (C11InvEx.m.task 0).isAuto = false ∧ (C11InvEx.m.task 0).needFac = false ∧
    (allocate C11InvEx.m Logs.empty .tslack C11InvEx.l).allocW 0 = [0] ∧
    (allocate C11InvEx.m Logs.empty .tslack C11InvEx.l).allocW 1 = [1] ∧
    C11InvEx.l.allocW 1 = [] ∧
    hasSkill (C11InvEx.m.worker 1).skills (C11InvEx.m.task 0).name = true ∧
    teamTargets C11InvEx.m 1 0 = true ∧
    canAdd C11InvEx.m (allocate C11InvEx.m Logs.empty .tslack C11InvEx.l) 0 (some 1) Option.none
      = false :=
  ⟨C11InvEx.order, by decide +kernel⟩

example : List.Sublist [0, 1]
    (sortTasks C11InvEx.m C11InvEx.l Logs.empty .tslack (NoWait.cands C11InvEx.m C11InvEx.l)) :=
  C11InvEx.order ▸ .refl _

/-- … and the same picture at the end of the whole step (`C11_no_inversion_step`) -/
example :
    ({} : Params).absence.contains ({ St.fresh with live := C11InvEx.l } : St).time = false ∧
    (stepBody C11InvEx.m {} { St.fresh with live := C11InvEx.l }).live.allocW 1 = [1] ∧
    canAdd C11InvEx.m (stepBody C11InvEx.m {} { St.fresh with live := C11InvEx.l }).live 0 (some 1)
      Option.none = false := by
  decide +kernel

end PDesy

#print axioms PDesy.C11_sorted_nodup
#print axioms PDesy.C11_allocate_order
#print axioms PDesy.C11_before_priority
#print axioms PDesy.C11_before_key
#print axioms PDesy.C11_no_inversion
#print axioms PDesy.C11_no_inversion'
#print axioms PDesy.C11_no_inversion_pos
#print axioms PDesy.C11_no_inversion_step
