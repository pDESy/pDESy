/-
  PDesy.Props.C10Slack — C10, clause 3 under the priority rule TSLACK on general acyclic networks.

  `C10_removal` (Props/C10Removal.lean) admits TSLACK on finish-to-start networks only
  (`Removal.SlackOK`); `C10_removal_tslack_general` weakens that to "consistent acyclic network,
  any link kinds".  Before the repair F30 this was false.  The backward pass of
  `update_PERT_data` tested "`lft` not calculated yet" by `pre_lft < 0`, and overwrote the
  genuinely negative `lft` that a task overshooting behind a closed FF / SF finish gate gets at a
  small clock.  `SlackShift.cxM`, `cxM4`, `cxR` were counterexamples, replayed on the Python code
  (`/repo` at c33e3f4): the run with absence, absence steps deleted, had 4 steps against 5 (13
  against 15) and served two READY tasks in the other order.  The code now remembers which tasks it
  has set in the current pass (`calculated_task_set`, `Pert.done`); the model follows, and the
  three models satisfy the property (`C10_removal_tslack_cxM`, `_cxM4`, `_cxR`).

  In general, two computations on the same remaining work give `lst` and `lft` that differ by
  `cpl' − cpl`; hence, `d` steps later, the total slack of EVERY task changes by the SAME constant
  `(cpl' − cpl) − d`, and `sort_task_list` compares the tasks in the same way.  The constant is `0`
  when no remaining work is negative, but not in general (`C10_slack_shift_constant`).

  The theorems instantiate `pert_lst_shift`, `pert_slack_shift_dag`, `taskLe_pert_shift_dag` (Lemmas/PertShift)
  and `Removal.removal_sortAgree` with `sortAgree_of_notFifo`; the witnesses (evaluated in Lemmas/SlackShift)
  come under the theorem by `removal_dag_run`.
-/
import PDesy.Lemmas.SlackShift
import PDesy.Lemmas.Fast
import PDesy.Model.Ser

namespace PDesy
open PDesy.Removal PDesy.Idem PDesy.PertSpec PDesy.SlackShift

/-- **C10.3, `lst` and `lft` on general networks.**  Consistent link lists (`GraphOK`), no cycle,
ANY mix of FS / SS / FF / SF links; `l` and `l'` have the same remaining work (any signs) and
arbitrary old PERT data; `time`, `time'` arbitrary.  Then every `lst` and every `lft` below `m.nT`
computed by `pert` at `time'` on `l'` is the one computed at `time` on `l` plus the difference of the
two critical path lengths.  (The backward pass contains no comparison with an absolute number.) -/
theorem C10_lst_shift_general {m : Model} (hok : GraphOK m) (hac : Acyclic m) (l l' : Live)
    (hr : l'.rem = l.rem) (time time' : Nat) :
    ∀ t, t < m.nT →
      (pert m time' l').lst t = (pert m time l).lst t + ((pert m time' l').cpl - (pert m time l).cpl) ∧
      (pert m time' l').lft t = (pert m time l).lft t + ((pert m time' l').cpl - (pert m time l).cpl) :=
  pert_lst_shift hok hac l l' hr time time'

/-- **C10.3, total slack on general networks: the same up to ONE constant.**  Under the same
hypotheses the total slack `lst − est` of every task below `m.nT`, computed `d` steps later, is the
earlier one plus `(cpl' − cpl) − d` — the same amount for all tasks. -/
theorem C10_slack_shift_general {m : Model} (hok : GraphOK m) (hac : Acyclic m) (l l' : Live)
    (hr : l'.rem = l.rem) (time d : Nat) :
    ∀ t, t < m.nT → (pert m (time + d) l').lst t - (pert m (time + d) l').est t =
      (pert m time l).lst t - (pert m time l).est t +
        (((pert m (time + d) l').cpl - (pert m time l).cpl) - (d : Rat)) :=
  pert_slack_shift_dag hok hac l l' hr time d

/-- **C10.3, the comparison of `sort_task_list`** for every rule but FIFO, TSLACK on any consistent
acyclic network (`DagOK m = GraphOK m ∧ Acyclic m`), any link kinds, any remaining work. -/
theorem C10_taskLe_shift_general (m : Model) (hwf : WF m) (rule : TaskRule) (hrule : rule ≠ .fifo)
    (l l' : Live) (hr : l'.rem = l.rem) (hsl : rule = .tslack → DagOK m)
    (time d : Nat) (lg lg' : Logs) (a b : Nat) (ha : a < m.nT) (hb : b < m.nT) :
    taskLe m (pert m (time + d) l') lg' rule a b = taskLe m (pert m time l) lg rule a b :=
  taskLe_pert_shift_dag hwf rule hrule l l' hr hsl time d lg lg' a b ha hb

/-- **C10.3 with TSLACK on general acyclic networks.**  The statement of `C10_removal` with the
field `slack : rule = .tslack → SlackOK m` (finish-to-start links only) of `Removal.ModelOK`
weakened to `rule = .tslack → GraphOK m ∧ Acyclic m` (`ModelOKw DagOK`: consistent link lists, no
cycle, ANY mix of FS / SS / FF / SF links).  The other hypotheses are those of `C10_removal`: no
individual absences, no component lists an automatic task, in-range links, rule ≠ FIFO, non-negative
work amounts and default progress ≤ 1 (`WorkOK`), both `initialize` flags set,
`perform_auto_task_while_absence_time` off, run A ends with SUCCESS.  For every absence list `L`:
deleting the project-wide absence steps from the result of the run with `L`
(`remove_absence_time_list`) gives exactly the logs, the clock and the status of the run without
absence, which ends with SUCCESS as well.  (As for `C10_removal`, the proof uses neither
`hm.compNoAuto` nor `hw` nor `hs`.) -/
theorem C10_removal_tslack_general (m : Model) (p : Params) (L : List Nat) (s : St)
    (hm : ModelOKw DagOK m p.rule) (hw : WorkOK m) (hs : p.initState = true)
    (hl : p.initLog = true) (hflag : p.autoFlag = false)
    (hsucc : (simulate m { p with absence := L } s).status = .success) :
    (removeAbs m (simulate m { p with absence := L } s)).logs = (simulate m { p with absence := [] } s).logs ∧
    (removeAbs m (simulate m { p with absence := L } s)).time = (simulate m { p with absence := [] } s).time ∧
    (removeAbs m (simulate m { p with absence := L } s)).status =
      (simulate m { p with absence := [] } s).status ∧
    (simulate m { p with absence := [] } s).status = .success :=
  removal_sortAgree m p L s hm.noInd (sortAgree_of_notFifo m p.rule hm.wf hm.notFifo hm.slack L) hl
    hflag hsucc

/-- `C10_removal` is the special case "TSLACK on finish-to-start networks" -/
theorem C10_removal_of_general (m : Model) (p : Params) (L : List Nat) (s : St)
    (hm : ModelOK m p.rule) (hw : WorkOK m) (hs : p.initState = true)
    (hl : p.initLog = true) (hflag : p.autoFlag = false)
    (hsucc : (simulate m { p with absence := L } s).status = .success) :
    (removeAbs m (simulate m { p with absence := L } s)).logs = (simulate m { p with absence := [] } s).logs ∧
    (removeAbs m (simulate m { p with absence := L } s)).time = (simulate m { p with absence := [] } s).time ∧
    (removeAbs m (simulate m { p with absence := L } s)).status =
      (simulate m { p with absence := [] } s).status ∧
    (simulate m { p with absence := [] } s).status = .success :=
  C10_removal_tslack_general m p L s ((modelOKw_of m p.rule hm).mono And.right) hw hs hl hflag hsucc

/-- **The first counterexample of before the repair F30 satisfies C10.3.**  Model
`SlackShift.cxM`, rule TSLACK, `perform_auto_task_while_absence_time` off, absence list `[0]`.
Step 0 `w0→K`, `w1→P` (remaining work of `P`: 1 − 3 = −2, it stays WORKING until `G` is FINISHED
and overshoots).  Before the repair run B (no absence) gave `G` the total slack 4 and `H` 2 at
time 1 (the stored `lft(P) = −1` was taken for "not calculated" and overwritten) and served `H`
first, run A (time 2, `lft(P) = 0`) gave `G` the slack 0 and served `G` first: 5 steps against 4
after `remove_absence_time_list`.  Now both runs serve `G, G, H`; run A takes 5 steps of which 1
absence step, run B 4, and the logs agree (run A is evaluated; the first conjuncts say that the
hypotheses of `C10_removal_tslack_general` hold, and everything about run B follows from them by
`SlackShift.removal_dag_run`, the form of that theorem for a concrete pair of runs). -/
theorem C10_removal_tslack_cxM :
    ModelOKw DagOK cxM .tslack ∧ WorkOK cxM ∧
    (simulate cxM { absence := [0], maxTime := 40 } St.fresh).status = .success ∧
    (simulate cxM { absence := [0], maxTime := 40 } St.fresh).time = 5 ∧
    (simulate cxM { absence := [], maxTime := 40 } St.fresh).status = .success ∧
    (simulate cxM { absence := [], maxTime := 40 } St.fresh).time = 4 ∧
    (removeAbs cxM (simulate cxM { absence := [0], maxTime := 40 } St.fresh)).time = 4 ∧
    (removeAbs cxM (simulate cxM { absence := [0], maxTime := 40 } St.fresh)).logs.wAsg 0 =
      [[0], [1], [1], [2]] ∧
    (simulate cxM { absence := [], maxTime := 40 } St.fresh).logs.wAsg 0 = [[0], [1], [1], [2]] ∧
    (simulate cxM { absence := [], maxTime := 40 } St.fresh).logs.tRem 3 = [-2, -5, -8, 0] ∧
    putLogs cxM (removeAbs cxM (simulate cxM { absence := [0], maxTime := 40 } St.fresh)).logs =
      putLogs cxM (simulate cxM { absence := [], maxTime := 40 } St.fresh).logs := by
  obtain ⟨hs, ht, hrt, hw, hr⟩ : let A := simulate cxM { absence := [0], maxTime := 40 } St.fresh
      A.status = .success ∧ A.time = 5 ∧ (removeAbs cxM A).time = 4 ∧
      (removeAbs cxM A).logs.wAsg 0 = [[0], [1], [1], [2]] ∧
      (removeAbs cxM A).logs.tRem 3 = [-2, -5, -8, 0] := by
    simp only [Fast.simulate_fast]; decide +kernel
  obtain ⟨hl, htB, -, hsB⟩ := removal_dag_run (pB := { maxTime := 40 }) hs rfl
    (cxM_ok .tslack (by decide)) rfl rfl
  exact ⟨cxM_ok .tslack (by decide), cxM_workOK, hs, ht, hsB, htB.symm.trans hrt, hrt, hw,
    (congrArg (·.wAsg 0) hl).symm.trans hw, (congrArg (·.tRem 3) hl).symm.trans hr,
    congrArg (putLogs cxM) hl⟩

/-- … and by the general theorem (equality of the logs themselves) -/
example :
    (removeAbs cxM (simulate cxM { absence := [0], maxTime := 40 } St.fresh)).logs =
      (simulate cxM { absence := [], maxTime := 40 } St.fresh).logs :=
  (C10_removal_tslack_general cxM { maxTime := 40 } [0] St.fresh (cxM_ok .tslack (by decide))
    cxM_workOK rfl rfl rfl C10_removal_tslack_cxM.2.2.1).1

/-- **The second one** (skill 4 for `P`, absence list `[0, 1]`; the value the backward pass misread
before the repair was `−2` in run B, not the marker `−1` itself): 6 steps of which 2 absence steps
against 4, same logs. -/
theorem C10_removal_tslack_cxM4 :
    ModelOKw DagOK cxM4 .tslack ∧
    (simulate cxM4 { absence := [0, 1], maxTime := 40 } St.fresh).status = .success ∧
    (simulate cxM4 { absence := [0, 1], maxTime := 40 } St.fresh).time = 6 ∧
    (removeAbs cxM4 (simulate cxM4 { absence := [0, 1], maxTime := 40 } St.fresh)).time = 4 ∧
    (simulate cxM4 { absence := [], maxTime := 40 } St.fresh).time = 4 ∧
    putLogs cxM4 (removeAbs cxM4 (simulate cxM4 { absence := [0, 1], maxTime := 40 } St.fresh)).logs =
      putLogs cxM4 (simulate cxM4 { absence := [], maxTime := 40 } St.fresh).logs := by
  obtain ⟨hs, ht, hrt⟩ : let A := simulate cxM4 { absence := [0, 1], maxTime := 40 } St.fresh
      A.status = .success ∧ A.time = 6 ∧ (removeAbs cxM4 A).time = 4 := by
    simp only [Fast.simulate_fast]; decide +kernel
  obtain ⟨hl, htB, -, -⟩ := removal_dag_run (pB := { maxTime := 40 }) hs rfl
    (cxM4_ok .tslack (by decide)) rfl rfl
  exact ⟨cxM4_ok .tslack (by decide), hs, ht, hrt, htB.symm.trans hrt, congrArg (putLogs cxM4) hl⟩

/-- **The third one: all progress rates ≤ 1.**  Model `SlackShift.cxR`: eight
tasks, three workers, every skill ≤ 1, at most one skilled worker per task, automatic tasks at
rate 1 (`cxR_rates`); links FS and FF.  Rule TSLACK.  Before the repair, with the absence list
`[0]`, the run with absence had 13 steps after `remove_absence_time_list` and worker `0` served
`K, g, g, h, h`, the run without absence had 15 steps and worker `0` served `K, h, h, g, g`.  Now
both serve `K, g, g, h, h` and take 13 working steps, and the logs agree.  (The absence list
`[1]`, where the absence step falls into the period in which the tail `q` keeps a stale `eft` and
the slacks of the two runs differ by a non-zero constant: next `example`.) -/
theorem C10_removal_tslack_cxR :
    ModelOKw DagOK cxR .tslack ∧ WorkOK cxR ∧
    (simulate cxR { absence := [0], maxTime := 80 } St.fresh).status = .success ∧
    (simulate cxR { absence := [0], maxTime := 80 } St.fresh).time = 14 ∧
    (removeAbs cxR (simulate cxR { absence := [0], maxTime := 80 } St.fresh)).time = 13 ∧
    (simulate cxR { absence := [], maxTime := 80 } St.fresh).time = 13 ∧
    ((removeAbs cxR (simulate cxR { absence := [0], maxTime := 80 } St.fresh)).logs.wAsg 0).take 5 =
      [[0], [1], [1], [2], [2]] ∧
    ((simulate cxR { absence := [], maxTime := 80 } St.fresh).logs.wAsg 0).take 5 =
      [[0], [1], [1], [2], [2]] ∧
    putLogs cxR (removeAbs cxR (simulate cxR { absence := [0], maxTime := 80 } St.fresh)).logs =
      putLogs cxR (simulate cxR { absence := [], maxTime := 80 } St.fresh).logs := by
  obtain ⟨hs, ht, hrt, hw⟩ : let A := simulate cxR { absence := [0], maxTime := 80 } St.fresh
      A.status = .success ∧ A.time = 14 ∧ (removeAbs cxR A).time = 13 ∧
      ((removeAbs cxR A).logs.wAsg 0).take 5 = [[0], [1], [1], [2], [2]] := by
    simp only [Fast.simulate_fast]; decide +kernel
  obtain ⟨hl, htB, -, -⟩ := removal_dag_run (pB := { maxTime := 80 }) hs rfl
    (cxR_ok .tslack (by decide)) rfl rfl
  exact ⟨cxR_ok .tslack (by decide), cxR_workOK, hs, ht, hrt, htB.symm.trans hrt, hw,
    (congrArg (fun g => (g.wAsg 0).take 5) hl).symm.trans hw, congrArg (putLogs cxR) hl⟩

/-- `cxR` with the absence list `[1]` (the states of `C10_slack_shift_constant` below lie on these
runs): 14 steps of which 1 absence step against 13, same logs -/
example :
    (simulate cxR { absence := [1], maxTime := 80 } St.fresh).status = .success ∧
    (simulate cxR { absence := [1], maxTime := 80 } St.fresh).time = 14 ∧
    (simulate cxR { absence := [], maxTime := 80 } St.fresh).time = 13 ∧
    putLogs cxR (removeAbs cxR (simulate cxR { absence := [1], maxTime := 80 } St.fresh)).logs =
      putLogs cxR (simulate cxR { absence := [], maxTime := 80 } St.fresh).logs := by
  obtain ⟨hs, ht⟩ : let A := simulate cxR { absence := [1], maxTime := 80 } St.fresh
      A.status = .success ∧ A.time = 14 := by
    simp only [Fast.simulate_fast]; decide +kernel
  obtain ⟨-, -, -, -, -, htB, -⟩ := C10_removal_tslack_cxR
  exact ⟨hs, ht, htB, congrArg (putLogs cxR)
    (removal_dag_run hs rfl (cxR_ok .tslack (by decide)) rfl rfl).1⟩

/-- under every other admitted rule `C10_removal` applied to `cxM` already: `ModelOK` restricts the
link kinds for TSLACK only (cited as `C10_removal_of_general`, its copy in this file) -/
example : ∀ rule ∈ [TaskRule.est, .spt, .lpt, .lrpt, .srpt, .lwrpt, .swrpt],
    putLogs cxM (removeAbs cxM (simulate cxM { rule := rule, absence := [0], maxTime := 40 } St.fresh)).logs =
      putLogs cxM (simulate cxM { rule := rule, absence := [], maxTime := 40 } St.fresh).logs := by
  have hA : ∀ rule ∈ [TaskRule.est, .spt, .lpt, .lrpt, .srpt, .lwrpt, .swrpt],
      (simulate cxM { rule := rule, absence := [0], maxTime := 40 } St.fresh).status = .success := by
    simp only [Fast.simulate_fast]; decide +kernel
  intro rule hr
  have hne : rule ≠ .fifo := by rintro rfl; simp at hr
  have hnt : rule ≠ .tslack := by rintro rfl; simp at hr
  have hd := cxM_ok rule hne
  exact congrArg (putLogs cxM)
    (C10_removal_of_general cxM { rule := rule, maxTime := 40 } [0] St.fresh
      ⟨hd.noInd, hd.compNoAuto, hd.wf, hne, fun h => absurd h hnt⟩ cxM_workOK rfl rfl rfl (hA rule hr)).1

/-- **Where the difference came from, and that it is gone**: the states the two runs of `cxM` reach
after their first working step (same task states, same remaining work `[0, 2, 1, −2, 3, 1]`, clocks
1 and 2) now have the same total slacks and the same order of `sort_task_list` (before the repair:
slacks `[2, 4, 2, 4, 0, 2]` against `[0, 0, 2, 0, 0, 2]`, orders `[4, 2, 1, 3]` against
`[1, 3, 4, 2]`). -/
theorem C10_slack_shift_cxM :
    a2.time = b1.time + 1 ∧
    (List.range 6).map (upd0 cxM a2.live).rem = (List.range 6).map (upd0 cxM b1.live).rem ∧
    slacks (update cxM b1.time b1.live) = [0, 0, 2, 0, 0, 2] ∧
    slacks (update cxM a2.time a2.live) = [0, 0, 2, 0, 0, 2] ∧
    sortTasks cxM (update cxM b1.time b1.live) b1.logs .tslack [1, 2, 3, 4] = [1, 3, 4, 2] ∧
    sortTasks cxM (update cxM a2.time a2.live) a2.logs .tslack [1, 2, 3, 4] = [1, 3, 4, 2] := by
  obtain ⟨ha, hb, hra, hrb, -⟩ := cx_states
  have ha2 : a2.time = 2 := by rw [ha, hb]
  refine ⟨ha, hra.trans hrb.symm, ?_⟩
  rw [ha2, hb]
  exact ⟨cx_slack.1, cx_slack.2.1, cx_order⟩

/-- **The slack itself is still not shift invariant — only up to a constant.**  `cxR`, absence list
`[1]`: the states the two runs reach after their first working step (and, in run A, the absence
step 1) have the same remaining work `[0, 2, 2, −3/4, −1/8, 1, 10, 1]` and the clocks 1 and 2; the
critical path length is `21/2` in both (the stale `eft` of the tail `q`), every slack of run A is
the slack of run B minus 1 (as `C10_slack_shift_general` says: `(21/2 − 21/2) − 1`), and the order of
`sort_task_list` is the same. -/
theorem C10_slack_shift_constant :
    aR.time = bR.time + 1 ∧
    (List.range 8).map (upd0 cxR aR.live).rem = (List.range 8).map (upd0 cxR bR.live).rem ∧
    (update cxR bR.time bR.live).cpl = 21/2 ∧ (update cxR aR.time aR.live).cpl = 21/2 ∧
    slacks8 (update cxR bR.time bR.live) = [-3/8, -3/8, 15/2, -3/8, -3/8, 15/2, -1/2, 15/2] ∧
    slacks8 (update cxR aR.time aR.live) = [-11/8, -11/8, 13/2, -11/8, -11/8, 13/2, -3/2, 13/2] ∧
    sortTasks cxR (update cxR bR.time bR.live) bR.logs .tslack [1, 2, 3, 4] = [1, 3, 4, 2] ∧
    sortTasks cxR (update cxR aR.time aR.live) aR.logs .tslack [1, 2, 3, 4] = [1, 3, 4, 2] := by
  obtain ⟨ha, hb, hra, hrb, h⟩ := cxR_slack
  have ha2 : aR.time = 2 := by rw [ha, hb]
  refine ⟨ha, hra.trans hrb.symm, ?_⟩
  rw [ha2, hb]
  exact h

/-- **On general acyclic networks the slack is not exactly the same once remaining work may be
negative** (`C10_slack_shift` without "finish-to-start only" AND without "no negative remaining
work"; with the latter kept it holds, `C10_slack_shift_nonneg`), not even for `l' = l` — witness:
`cxR` at the state above, task `K`, slack `−3/8` at time 1 and `−11/8` at time 2.  What holds
without any condition on the signs is `C10_slack_shift_general`. -/
theorem C10_slack_shift_general_false :
    ¬ ∀ (m : Model) (l l' : Live) (time d : Nat), WF m → GraphOK m → Acyclic m → l'.rem = l.rem →
      ∀ t, t < m.nT → (pert m (time + d) l').lst t - (pert m (time + d) l').est t =
        (pert m time l).lst t - (pert m time l).est t := by
  intro h
  exact cxR_slack_same_state
    (h cxR (upd0 cxR bR.live) (upd0 cxR bR.live) 1 1 cxR_graphOK.wf cxR_graphOK cxR_acyclic rfl 0 (by decide))

/-- **C10.3, `est` and `lst` on general networks.**  Consistent link lists (`GraphOK`), no cycle,
ANY mix of FS / SS / FF / SF links; `l` has no negative remaining work and `l'` has the same
remaining work.  Then `pert` at time `time + d` on `l'` gives every `est` and every `lst` below
`m.nT` exactly `d` later than `pert` at time `time` on `l`. -/
theorem C10_pert_shift_nonneg {m : Model} (hok : GraphOK m) (hac : Acyclic m) (l l' : Live)
    (hr : l'.rem = l.rem) (hnn : ∀ t, t < m.nT → 0 ≤ l.rem t) (time d : Nat) :
    ∀ t, t < m.nT → (pert m (time + d) l').est t = (pert m time l).est t + (d : Rat) ∧
      (pert m (time + d) l').lst t = (pert m time l).lst t + (d : Rat) :=
  pert_shift_nonneg hok hac l l' hr hnn time d

/-- **C10.3, total slack on general networks without negative remaining work.**  Under the same
hypotheses the total slack `lst − est` of every task does not depend on the time: the constant of
`C10_slack_shift_general` is `0`.  (`C10_slack_shift` without "finish-to-start only".) -/
theorem C10_slack_shift_nonneg {m : Model} (hok : GraphOK m) (hac : Acyclic m) (l l' : Live)
    (hr : l'.rem = l.rem) (hnn : ∀ t, t < m.nT → 0 ≤ l.rem t) (time d : Nat) :
    ∀ t, t < m.nT → (pert m (time + d) l').lst t - (pert m (time + d) l').est t =
      (pert m time l).lst t - (pert m time l).est t :=
  pert_slack_shift_nonneg hok hac l l' hr hnn time d

/-- `C10_taskLe_shift_general` with the hypothesis "no negative remaining work" that it needed
before the repair F30 (TSLACK on any consistent acyclic network, `DagOK`); the proof does not use
it. -/
theorem C10_taskLe_shift_nonneg (m : Model) (hwf : WF m) (rule : TaskRule) (hrule : rule ≠ .fifo)
    (l l' : Live) (hr : l'.rem = l.rem)
    (hsl : rule = .tslack → DagOK m ∧ ∀ t, t < m.nT → 0 ≤ l.rem t)
    (time d : Nat) (lg lg' : Logs) (a b : Nat) (ha : a < m.nT) (hb : b < m.nT) :
    taskLe m (pert m (time + d) l') lg' rule a b = taskLe m (pert m time l) lg rule a b :=
  taskLe_pert_shift_dag hwf rule hrule l l' hr (fun h => (hsl h).1) time d lg lg' a b ha hb

/-- all four link kinds: `0 →FS 1`, `0 →SS 2`, `1 →FF 3`, `2 →SF 3` -/
def allM : Model where
  nT := 4
  nW := 0
  nF := 0
  nTeam := 0
  nWp := 0
  nC := 0
  task := fun t =>
    match t with
    | 0 => { name := 0, work := 2, outputs := [(1, .fs), (2, .ss)] }
    | 1 => { name := 1, work := 3, inputs := [(0, .fs)], outputs := [(3, .ff)] }
    | 2 => { name := 2, work := 1, inputs := [(0, .ss)], outputs := [(3, .sf)] }
    | _ => { name := 3, work := 2, inputs := [(1, .ff), (2, .sf)] }
  worker := fun _ => {}
  fac := fun _ => {}
  team := fun _ => {}
  wp := fun _ => {}
  comp := fun _ => {}

/-- the state with the full work amounts left -/
def allL : Live := { Live.empty with rem := fun t => (allM.task t).work }

theorem allM_acyclic : Acyclic allM := ⟨id, by decide +kernel⟩

theorem allL_nonneg : ∀ t, t < allM.nT → 0 ≤ allL.rem t := by decide +kernel

/-- `C10_slack_shift_nonneg` applies to a network with all four link kinds … -/
example : ∀ t, t < allM.nT → (pert allM (0 + 3) allL).lst t - (pert allM (0 + 3) allL).est t =
    (pert allM 0 allL).lst t - (pert allM 0 allL).est t :=
  C10_slack_shift_nonneg (by decide +kernel) allM_acyclic allL allL rfl allL_nonneg 0 3

/-- … where the slacks are not all zero (evaluated: `est`, `lst` at time 0 and at time 3) -/
example :
    (List.range 4).map (fun t => ((pert allM 0 allL).est t, (pert allM 0 allL).lst t)) =
      [(0, 1), (2, 3), (0, 3), (2, 3)] ∧
    (List.range 4).map (fun t => ((pert allM 3 allL).est t, (pert allM 3 allL).lst t)) =
      [(3, 4), (5, 6), (3, 6), (5, 6)] := by decide +kernel

/-- and to the network `cxM`, as long as nothing has overshot (the state the runs enter their
loops with) -/
example : ∀ t, t < cxM.nT →
    (pert cxM (0 + 7) (enter cxM pB St.fresh).live).lst t - (pert cxM (0 + 7) (enter cxM pB St.fresh).live).est t =
      (pert cxM 0 (enter cxM pB St.fresh).live).lst t - (pert cxM 0 (enter cxM pB St.fresh).live).est t :=
  C10_slack_shift_nonneg cxM_graphOK cxM_acyclic _ _ rfl (by decide +kernel) 0 7

/-- **C10.3 for TSLACK on a general acyclic network, given that nothing overshoots** — the
strongest statement before the repair F30.  `J` is an invariant of the run with absence list `L`
under which, if the rule is TSLACK, no task has negative remaining work after
`check_state(FINISHED)` (`NonNeg`).  Since the repair it is `C10_removal_tslack_general` with three
hypotheses more: the proof does not use `hJ0`, `hJ`, `hJnn`. -/
theorem C10_removal_tslack_of_nonneg (m : Model) (p : Params) (L : List Nat) (s : St)
    (hm : ModelOKw DagOK m p.rule) (hw : WorkOK m) (hs : p.initState = true)
    (hl : p.initLog = true) (hflag : p.autoFlag = false)
    (J : St → Prop) (hJ0 : J (enter m { p with absence := L } s))
    (hJ : ∀ a0, J a0 → J (stepBody m { p with absence := L } (updated m a0)))
    (hJnn : p.rule = .tslack → ∀ a0, J a0 → NonNeg m a0)
    (hsucc : (simulate m { p with absence := L } s).status = .success) :
    (removeAbs m (simulate m { p with absence := L } s)).logs = (simulate m { p with absence := [] } s).logs ∧
    (removeAbs m (simulate m { p with absence := L } s)).time = (simulate m { p with absence := [] } s).time ∧
    (removeAbs m (simulate m { p with absence := L } s)).status =
      (simulate m { p with absence := [] } s).status ∧
    (simulate m { p with absence := [] } s).status = .success :=
  C10_removal_tslack_general m p L s hm hw hs hl hflag hsucc

/-- **C10.3 for TSLACK, partial result: networks of FS and SS links.**  The statement of
`C10_removal` with the field `slack` of `ModelOK` weakened from `SlackOK` (FS links only) to
`SlackOK2 m = NoFinishGate m ∧ GraphOK m ∧ Acyclic m` (no FF / SF link, consistent, acyclic):
without a finish gate a task that reaches remaining work ≤ 0 is FINISHED (and clamped to 0) by the
next `__update`, so no remaining work is negative where the tasks are sorted.  (A corollary of
`C10_removal_tslack_general`, which has no condition on the link kinds.) -/
theorem C10_removal_tslack_partial (m : Model) (p : Params) (L : List Nat) (s : St)
    (hm : ModelOKw SlackOK2 m p.rule) (hw : WorkOK m) (hs : p.initState = true)
    (hl : p.initLog = true) (hflag : p.autoFlag = false)
    (hsucc : (simulate m { p with absence := L } s).status = .success) :
    (removeAbs m (simulate m { p with absence := L } s)).logs = (simulate m { p with absence := [] } s).logs ∧
    (removeAbs m (simulate m { p with absence := L } s)).time = (simulate m { p with absence := [] } s).time ∧
    (removeAbs m (simulate m { p with absence := L } s)).status =
      (simulate m { p with absence := [] } s).status ∧
    (simulate m { p with absence := [] } s).status = .success :=
  C10_removal_tslack_general m p L s (hm.mono And.right) hw hs hl hflag hsucc

/-- four tasks, FS and SS links: `0` ordinary (work 2); `1` automatic (work 2), start-to-start
after `0`; `2` ordinary (work 1), finish-to-start after `0`; `3` ordinary (work 1),
finish-to-start after `1` and start-to-start after `2`; one worker for the ordinary ones -/
def fsM : Model where
  nT := 4
  nW := 1
  nF := 0
  nTeam := 1
  nWp := 0
  nC := 0
  task := fun t =>
    match t with
    | 0 => { name := 0, work := 2, outputs := [(1, .ss), (2, .fs)] }
    | 1 => { name := 1, work := 2, isAuto := true, inputs := [(0, .ss)], outputs := [(3, .fs)] }
    | 2 => { name := 2, work := 1, inputs := [(0, .fs)], outputs := [(3, .ss)] }
    | _ => { name := 3, work := 1, inputs := [(1, .fs), (2, .ss)] }
  worker := fun _ => { team := 0, skills := [(0, 1), (2, 1), (3, 1)] }
  fac := fun _ => {}
  team := fun _ => { workers := [0], targets := [0, 1, 2, 3] }
  wp := fun _ => {}
  comp := fun _ => {}

theorem fsM_ok (rule : TaskRule) (h : rule ≠ .fifo) : ModelOKw SlackOK2 fsM rule :=
  ⟨by decide +kernel, fun _ _ ht => (nomatch ht), by decide +kernel, h,
    fun _ => ⟨by decide +kernel, by decide +kernel, id, by decide +kernel⟩⟩

theorem fsM_workOK : WorkOK fsM := by decide +kernel

/-- run A of `fsM` (rule TSLACK), evaluated once -/
theorem fsM_runA :
    (simulate fsM { absence := [1, 1, 3, 30], maxTime := 40 } St.fresh).status = .success ∧
    (simulate fsM { absence := [1, 1, 3, 30], maxTime := 40 } St.fresh).time = 6 ∧
    (removeAbs fsM (simulate fsM { absence := [1, 1, 3, 30], maxTime := 40 } St.fresh)).time = 4 := by
  simp only [Fast.simulate_fast]; decide +kernel

/-- `C10_removal_tslack_partial` applies (rule TSLACK, absence list `[1, 1, 3, 30]`; run A takes 6
steps of which 2 are absence steps, run B takes 4) … -/
example :
    (removeAbs fsM (simulate fsM { absence := [1, 1, 3, 30], maxTime := 40 } St.fresh)).logs =
      (simulate fsM { absence := [], maxTime := 40 } St.fresh).logs :=
  (C10_removal_tslack_partial fsM { maxTime := 40 } [1, 1, 3, 30] St.fresh (fsM_ok .tslack (by decide))
    fsM_workOK rfl rfl rfl fsM_runA.1).1

/-- … hence the clock of run B and the serialised logs (run A evaluated, run B by the theorem) -/
example :
    (simulate fsM { absence := [1, 1, 3, 30], maxTime := 40 } St.fresh).time = 6 ∧
    (simulate fsM { absence := [], maxTime := 40 } St.fresh).time = 4 ∧
    putLogs fsM (removeAbs fsM (simulate fsM { absence := [1, 1, 3, 30], maxTime := 40 } St.fresh)).logs =
      putLogs fsM (simulate fsM { absence := [], maxTime := 40 } St.fresh).logs := by
  obtain ⟨hs, ht, hrt⟩ := fsM_runA
  obtain ⟨hl, htB, -, -⟩ := removal_dag_run (pB := { maxTime := 40 }) hs rfl
    ((fsM_ok .tslack (by decide)).mono And.right) rfl rfl
  exact ⟨ht, htB.symm.trans hrt, congrArg (putLogs fsM) hl⟩

end PDesy

#print axioms PDesy.C10_lst_shift_general
#print axioms PDesy.C10_slack_shift_general
#print axioms PDesy.C10_taskLe_shift_general
#print axioms PDesy.C10_removal_tslack_general
#print axioms PDesy.C10_removal_of_general
#print axioms PDesy.C10_removal_tslack_cxM
#print axioms PDesy.C10_removal_tslack_cxM4
#print axioms PDesy.C10_removal_tslack_cxR
#print axioms PDesy.C10_slack_shift_cxM
#print axioms PDesy.C10_slack_shift_constant
#print axioms PDesy.C10_slack_shift_general_false
#print axioms PDesy.C10_pert_shift_nonneg
#print axioms PDesy.C10_slack_shift_nonneg
#print axioms PDesy.C10_taskLe_shift_nonneg
#print axioms PDesy.C10_removal_tslack_of_nonneg
#print axioms PDesy.C10_removal_tslack_partial
