/-
  PDesy.Props.C03 — resource allocation is exclusive and two-way consistent at every step.

  `AllocInv m l`   : worker ↔ task and facility ↔ task lists agree, every worker/facility is
                     assigned to at most one task, only READY/WORKING tasks hold resources.
  `HoldWorking l`  : every task holding a resource is WORKING (true at every step boundary).
  `ResInv m k w l` : a worker/facility is ABSENCE when absent (or the step is a non-working one),
                     otherwise WORKING exactly when it holds a task, else FREE.
  Beside these three, `InRange` (an invariant on its own) gives `C03_final_outclean`.
  The theorems instantiate `AllocInv_enter`, `AllocInv_stepBody`, `AllocInv_loopInv` and
  `InRange_loopInv` (Lemmas/Alloc).
-/
import PDesy.Lemmas.Alloc

namespace PDesy

/- `initLive` resets every index, also those outside the ranges of the model (they stand for no
   object), so `C03_init`, `C03_run`, `C03_run_updated`, `C03_final`, `C03_rerun'` hold for EVERY
   incoming state. -/
/-- After `initialize(state_info=True)`, whatever the state before, every allocation list is
empty, hence the allocation invariant holds and no task holds anything. -/
theorem C03_init {m : Model} {p : Params} {s : St} (hp : p.initState = true) :
    AllocInv m (enter m p s).live ∧ HoldWorking (enter m p s).live :=
  AllocInv_enter m hp s

/-- `C03_init` with the unused hypothesis that nothing is allocated out of range. -/
theorem C03_init_partial {m : Model} {p : Params} {s : St}
    (hp : p.initState = true) (_hc : OutClean m s.live) :
    AllocInv m (enter m p s).live ∧ HoldWorking (enter m p s).live :=
  C03_init hp

/-- Starting the loop from a state satisfying the allocation invariant (with every holder
WORKING), every recorded step `s'` of the run satisfies it again, and at that step every
worker/facility state is the one determined by absence and assignment (`ResInv`, for the time
`s'.time - 1` at which the step ran). -/
theorem C03_trace {m : Model} {p : Params} {s : St}
    (h : AllocInv m s.live ∧ HoldWorking s.live) (fuel : Nat) :
    ∀ s' ∈ trace m p fuel s,
      AllocInv m s'.live ∧ HoldWorking s'.live ∧
      ResInv m (s'.time - 1) (workingAt p (s'.time - 1)) s'.live := by
  intro s' hs'
  -- a recorded state is `stepBody` of an updated state that satisfies the invariant
  obtain ⟨s0, h0, _, rfl⟩ := (AllocInv_loopInv m p).trace_mem h fuel s' hs'
  rw [stepBody_time, Nat.add_sub_cancel]
  exact AllocInv_stepBody p h0.1 h0.2

/-- The allocation invariant (with every holder WORKING) also holds at every `updated` boundary,
i.e. right after `__update` at the top of each iteration, including the last one. -/
theorem C03_updated {m : Model} {p : Params} {s : St}
    (h : AllocInv m s.live ∧ HoldWorking s.live) (fuel : Nat) :
    ∀ s' ∈ updTrace m p fuel s, AllocInv m s'.live ∧ HoldWorking s'.live :=
  (AllocInv_loopInv m p).updTrace h fuel

/-- Every recorded step of `simulate m p s` (with `initialize_state_info=True`, from ANY state `s`)
satisfies the allocation invariant, has every holder WORKING, and has resource states determined
by absence and assignment. -/
theorem C03_run {m : Model} {p : Params} {s : St} (hp : p.initState = true) :
    ∀ s' ∈ runTrace m p s,
      AllocInv m s'.live ∧ HoldWorking s'.live ∧
      ResInv m (s'.time - 1) (workingAt p (s'.time - 1)) s'.live :=
  C03_trace (C03_init hp) _

/-- … and so does every `updated` state of the run. -/
theorem C03_run_updated {m : Model} {p : Params} {s : St} (hp : p.initState = true) :
    ∀ s' ∈ runUpdTrace m p s, AllocInv m s'.live ∧ HoldWorking s'.live :=
  C03_updated (C03_init hp) _

/-- `C03_run` with the unused `OutClean` hypothesis. -/
theorem C03_run_partial {m : Model} {p : Params} {s : St}
    (hp : p.initState = true) (_hc : OutClean m s.live) :
    ∀ s' ∈ runTrace m p s,
      AllocInv m s'.live ∧ HoldWorking s'.live ∧
      ResInv m (s'.time - 1) (workingAt p (s'.time - 1)) s'.live :=
  C03_run hp

/-- `C03_run_updated` with the unused `OutClean` hypothesis. -/
theorem C03_run_updated_partial {m : Model} {p : Params} {s : St}
    (hp : p.initState = true) (_hc : OutClean m s.live) :
    ∀ s' ∈ runUpdTrace m p s, AllocInv m s'.live ∧ HoldWorking s'.live :=
  C03_run_updated hp

/-- A continued run (`initialize_state_info=False`) from a state that satisfies the invariant keeps it. -/
theorem C03_run_continue {m : Model} {p : Params} {s : St}
    (hp : p.initState = false) (h : AllocInv m s.live ∧ HoldWorking s.live) :
    ∀ s' ∈ runTrace m p s,
      AllocInv m s'.live ∧ HoldWorking s'.live ∧
      ResInv m (s'.time - 1) (workingAt p (s'.time - 1)) s'.live :=
  C03_trace (by rw [Lifecycle.enter_live_continue m hp]; exact h) _

/-- The state `simulate` returns (with `initialize_state_info=True`, from ANY state) satisfies
the allocation invariant, with every holder WORKING. -/
theorem C03_final {m : Model} {p : Params} {s : St} (hp : p.initState = true) :
    AllocInv m (simulate m p s).live ∧ HoldWorking (simulate m p s).live :=
  ((AllocInv_loopInv m p).run (C03_init hp)).2.2

/-- `C03_final` with the unused `OutClean` hypothesis. -/
theorem C03_final_partial {m : Model} {p : Params} {s : St}
    (hp : p.initState = true) (_hc : OutClean m s.live) :
    AllocInv m (simulate m p s).live ∧ HoldWorking (simulate m p s).live :=
  C03_final hp

/-- Under the allocation invariant a FINISHED task holds nothing. -/
theorem C03_released {m : Model} {l : Live} {t : Nat}
    (h : AllocInv m l) (hf : l.tstate t = .finished) : l.allocW t = [] ∧ l.allocF t = [] :=
  nil_and_nil_of_not fun hne => by rcases h.holder t hne with e | e <;> rw [hf] at e <;> cases e

/-- `check_state(FINISHED)` releases everything a task held at the step it becomes FINISHED:
a worker (facility) that was allocated to `t` before and finds `t` FINISHED afterwards is
assigned to nothing afterwards — and `t` itself lists nothing (by `C03_released`). -/
theorem C03_chkFinished_released {m : Model} {l : Live} {t : Nat} (h : AllocInv m l)
    (hf : (chkFinished m l).tstate t = .finished) :
    (chkFinished m l).allocW t = [] ∧ (chkFinished m l).allocF t = [] ∧
    (∀ w ∈ l.allocW t, (chkFinished m l).wasg w = []) ∧
    (∀ f ∈ l.allocF t, (chkFinished m l).fasg f = []) := by
  have h' := AllocInv_chkFinished h
  have hr := C03_released h' hf
  obtain ⟨s1, s2⟩ := h.chkFinished_asg_sub
  exact ⟨hr.1, hr.2, fun w hw => h.W.asg_nil_of_sub h'.W hw (s1 w) hr.1,
    fun f hf' => h.F.asg_nil_of_sub h'.F hf' (s2 f) hr.2⟩

/-- Reading of `ResInv` on a working step: a worker (facility) is WORKING exactly when it holds a
task and is not absent, ABSENCE exactly when absent, FREE exactly when idle and present. -/
theorem C03_working_iff {m : Model} {k : Nat} {l : Live} (h : ResInv m k true l) :
    (∀ w, w < m.nW →
      (l.wstate w = .working ↔ l.wasg w ≠ [] ∧ (m.worker w).absence.contains k = false) ∧
      (l.wstate w = .absence ↔ (m.worker w).absence.contains k = true) ∧
      (l.wstate w = .free ↔ l.wasg w = [] ∧ (m.worker w).absence.contains k = false)) ∧
    (∀ f, f < m.nF →
      (l.fstate f = .working ↔ l.fasg f ≠ [] ∧ (m.fac f).absence.contains k = false) ∧
      (l.fstate f = .absence ↔ (m.fac f).absence.contains k = true) ∧
      (l.fstate f = .free ↔ l.fasg f = [] ∧ (m.fac f).absence.contains k = false)) :=
  h.iff_on

/-- On a non-working step every worker and facility of the model is ABSENCE. -/
theorem C03_nonworking {m : Model} {k : Nat} {l : Live} (h : ResInv m k false l) :
    (∀ w, w < m.nW → l.wstate w = .absence) ∧ (∀ f, f < m.nF → l.fstate f = .absence) :=
  h.off

/-- If the workplaces only list facilities of the model (`FacsInRange`), the state a run returns
has nothing allocated outside the index ranges (`_hc` is not used).  The invariant behind it,
`InRange_loopInv`, holds at every state of the run. -/
theorem C03_final_outclean {m : Model} {p : Params} {s : St} (hwf : FacsInRange m)
    (hp : p.initState = true) (_hc : OutClean m s.live) : OutClean m (simulate m p s).live :=
  -- `AllocInv` is only needed to read `InRange` as `OutClean`
  ((InRange_loopInv hwf p).run (InRange_enter m hp s)).2.2.outClean (C03_final hp).1

/-- A second run (with `initialize_state_info=True`) on an already simulated project — whatever the
first run's parameters, whatever the model — satisfies C03 at every step as well. -/
theorem C03_rerun' {m : Model} {p p' : Params} {s : St} (hp' : p'.initState = true) :
    ∀ s' ∈ runTrace m p' (simulate m p s),
      AllocInv m s'.live ∧ HoldWorking s'.live ∧
      ResInv m (s'.time - 1) (workingAt p' (s'.time - 1)) s'.live :=
  C03_run hp'

/-- `C03_rerun'` with three unused hypotheses. -/
theorem C03_rerun {m : Model} {p p' : Params} {s : St} (_hwf : FacsInRange m)
    (_hp : p.initState = true) (hp' : p'.initState = true) (_hc : OutClean m s.live) :
    ∀ s' ∈ runTrace m p' (simulate m p s),
      AllocInv m s'.live ∧ HoldWorking s'.live ∧
      ResInv m (s'.time - 1) (workingAt p' (s'.time - 1)) s'.live :=
  C03_rerun' hp'

/-! ### the hypotheses are satisfiable; two stronger statements are false -/

/-- two tasks, 0 (work 2) —FS→ 1 (work 1), and one worker who can do both -/
def C03.exM : Model where
  nT := 2
  nW := 1
  nF := 0
  nTeam := 1
  nWp := 0
  nC := 0
  task := fun t =>
    if t = 0 then { name := 0, work := 2, outputs := [(1, .fs)] }
    else { name := 1, work := 1, inputs := [(0, .fs)] }
  worker := fun _ => { team := 0, skills := [(0, 1), (1, 1)] }
  fac := fun _ => {}
  team := fun _ => { workers := [0], targets := [0, 1] }
  wp := fun _ => {}
  comp := fun _ => {}

/-- the run of `C03.exM`, evaluated once -/
theorem C03.exM_run :
    ((runTrace C03.exM {} St.fresh).map fun s =>
      (s.time, s.live.tstate 0, s.live.tstate 1, s.live.allocW 0, s.live.allocW 1)) =
    [(1, .working, .none, [0], []), (2, .working, .none, [0], []), (3, .finished, .working, [], [0])] ∧
    ((runTrace C03.exM {} St.fresh).map fun s => (s.live.wstate 0, s.live.wasg 0)) =
    [(.working, [0]), (.working, [0]), (.working, [1])] := by
  simp only [Fast.runTrace_fast]; decide +kernel

/-- task 0 WORKING with worker 0; the worker's state is a parameter -/
def C03.exLw (ws : RS) : Live :=
  { Live.empty with
    tstate := fun t => if t = 0 then .working else .none
    allocW := fun t => if t = 0 then [0] else []
    wasg := fun w => if w = 0 then [0] else []
    wstate := fun w => if w = 0 then ws else .free }

theorem C03.exLw_inv (ws : RS) : AllocInv C03.exM (C03.exLw ws) ∧ HoldWorking (C03.exLw ws) :=
  -- the empty state with task 0 WORKING, then worker 0 given to task 0
  ⟨AllocInv_giveW (t := 0) (w := 0)
      (l := { Live.empty with tstate := fun t => if t = 0 then .working else .none,
                              wstate := fun w => if w = 0 then ws else .free })
      (AllocInv_of_empty (fun _ => rfl) (fun _ => rfl) (fun _ => rfl) (fun _ => rfl)).1 rfl
      (Or.inr rfl),
    fun t => by simp only [C03.exLw]; by_cases ht : t = 0 <;> simp [ht, Live.empty]⟩

/-- `allocate` does NOT preserve `AllocInv` on its own: a worker that is FREE although it holds
a task is handed out again. -/
theorem allocate_AllocInv_counterexample :
    ¬ (∀ (m : Model) (lg : Logs) (rule : TaskRule) (l : Live),
        AllocInv m l → AllocInv m (allocate m lg rule l)) := by
  intro h
  have h1 := (h C03.exM Logs.empty .tslack (C03.exLw .free) (C03.exLw_inv .free).1).w_excl 0
  have h2 : (allocate C03.exM Logs.empty .tslack (C03.exLw .free)).wasg 0 = [0, 0] := by
    decide +kernel
  rw [h2] at h1
  simp at h1

/-- a facility-needing READY task that holds a facility but no worker -/
def C03.exM2 : Model :=
  { C03.exM with nT := 1, nF := 1, task := fun _ => { needFac := true } }

def C03.exL2 : Live :=
  { Live.empty with
    tstate := fun t => if t = 0 then .ready else .none
    allocF := fun t => if t = 0 then [0] else []
    fasg := fun f => if f = 0 then [0] else [] }

theorem C03.exL2_inv : AllocInv C03.exM2 C03.exL2 :=
  -- the empty state with task 0 READY, then facility 0 given to task 0
  AllocInv_giveF (t := 0) (f := 0)
    (l := { Live.empty with tstate := fun t => if t = 0 then .ready else .none })
    (AllocInv_of_empty (fun _ => rfl) (fun _ => rfl) (fun _ => rfl) (fun _ => rfl)).1 rfl
    (Or.inl rfl) rfl

/-- `check_state(WORKING)` does NOT establish `HoldWorking` from `AllocInv` alone. -/
theorem chkWorking_HoldWorking_counterexample :
    ¬ (∀ (m : Model) (l : Live), AllocInv m l → HoldWorking (chkWorking m l)) := by
  intro h
  have h1 := h C03.exM2 C03.exL2 C03.exL2_inv 0
  have h2 : (chkWorking C03.exM2 C03.exL2).allocF 0 = [0] := by decide +kernel
  have h3 : (chkWorking C03.exM2 C03.exL2).tstate 0 = .ready := by decide +kernel
  rw [h2, h3] at h1
  simp at h1

/-- a project whose live state lists worker 0 for the out-of-range task 5 -/
def C03.exS : St :=
  { St.fresh with live :=
    { Live.empty with
      allocW := fun t => if t = 5 then [0] else []
      wasg := fun w => if w = 0 then [5] else [] } }

/-- `initialize` also resets the junk at the out-of-range task index 5 -/
example : ¬ OutClean C03.exM C03.exS.live ∧
    (enter C03.exM {} C03.exS).live.allocW 5 = [] ∧ (enter C03.exM {} C03.exS).live.wasg 0 = [] := by
  refine ⟨?_, by decide +kernel, by decide +kernel⟩
  intro h
  have := (h.1 5 (by decide)).1
  simp [C03.exS] at this

/-- task 0 FINISHED, nothing held -/
example : AllocInv C03.exM { Live.empty with tstate := fun t => if t = 0 then .finished else .none } ∧
    ({ Live.empty with tstate := fun t => if t = 0 then TS.finished else .none } : Live).tstate 0
      = .finished := by
  refine ⟨(AllocInv_of_empty ?_ ?_ ?_ ?_).1, rfl⟩ <;> intro _ <;> rfl

/-- premises of `C03_trace` / `C03_updated` / `C03_run_continue` -/
example : AllocInv C03.exM (C03.exLw .working) ∧ HoldWorking (C03.exLw .working) :=
  C03.exLw_inv .working

/-- premise of `C03_init` / `C03_run` / `C03_run_updated` / `C03_final` / `C03_rerun'`, on a dirty
state -/
example : ({} : Params).initState = true ∧ C03.exS ≠ St.fresh :=
  ⟨rfl, fun h => by
    have := congrArg (fun s => s.live.allocW 5) h
    simp [C03.exS, St.fresh, Live.empty] at this⟩

/-- premises of `C03_init_partial` / `C03_run_partial` / `C03_final_partial` / `C03_rerun` -/
example : ({} : Params).initState = true ∧ OutClean C03.exM St.fresh.live ∧ FacsInRange C03.exM :=
  ⟨rfl, OutClean_empty _, by intro p f h; simp [C03.exM] at h⟩

/-- premises of `C03_chkFinished_released` (task 0 is WORKING with no work left: it finishes
now) -/
example : AllocInv C03.exM (C03.exLw .working) ∧
    (chkFinished C03.exM (C03.exLw .working)).tstate 0 = .finished ∧
    0 ∈ (C03.exLw .working).allocW 0 :=
  ⟨(C03.exLw_inv .working).1, by decide +kernel, by decide +kernel⟩

/-- the run of the example model is not trivial: worker 0 does task 0 for two steps, is released
when it finishes and is given to task 1 at step 2 -/
example : ((runTrace C03.exM {} St.fresh).map fun s =>
      (s.time, s.live.tstate 0, s.live.tstate 1, s.live.allocW 0, s.live.allocW 1)) =
    [(1, .working, .none, [0], []), (2, .working, .none, [0], []), (3, .finished, .working, [], [0])] :=
  C03.exM_run.1

example : ((runTrace C03.exM {} St.fresh).map fun s => (s.live.wstate 0, s.live.wasg 0)) =
    [(.working, [0]), (.working, [0]), (.working, [1])] := C03.exM_run.2

end PDesy

#print axioms PDesy.C03_init
#print axioms PDesy.C03_run
#print axioms PDesy.C03_run_updated
#print axioms PDesy.C03_final
#print axioms PDesy.C03_rerun'
#print axioms PDesy.C03_init_partial
#print axioms PDesy.C03_trace
#print axioms PDesy.C03_updated
#print axioms PDesy.C03_run_partial
#print axioms PDesy.C03_run_updated_partial
#print axioms PDesy.C03_run_continue
#print axioms PDesy.C03_final_partial
#print axioms PDesy.C03_released
#print axioms PDesy.C03_chkFinished_released
#print axioms PDesy.C03_working_iff
#print axioms PDesy.C03_nonworking
#print axioms PDesy.C03_final_outclean
#print axioms PDesy.C03_rerun
#print axioms PDesy.allocate_AllocInv_counterexample
#print axioms PDesy.chkWorking_HoldWorking_counterexample
-- the phase-level forms that do hold (Lemmas/Alloc.lean), beside the two counterexamples
#print axioms PDesy.allocate_AllocInv_partial
#print axioms PDesy.chkWorking_HoldWorking_partial
#print axioms PDesy.Alloc.step_core
#print axioms PDesy.Alloc.step_core_guard
