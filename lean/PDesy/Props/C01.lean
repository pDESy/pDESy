/-
  PDesy.Props.C01 — "Task dependencies (FS/SS/FF/SF) are never violated; the task lifecycle
  only advances."

  `DepInv m ts` (Lemmas/Defs): for every non-exempt task `t < m.nT`
    * if `ts t ≠ NONE`    then every FS predecessor is FINISHED and every SS predecessor has
                           started (WORKING or FINISHED);
    * if `ts t = FINISHED` then every FF predecessor is FINISHED and every SF predecessor has
                           started.
  `Mono ts ts'`: no task has a smaller rank (NONE < READY < WORKING < FINISHED) in `ts'`.
  `exempt m t`: default progress `≥ 1` (such a task is FINISHED from the start).
  No well-formedness assumption on the model is needed anywhere in this file.

  The run-level theorems project `Lifecycle.DepInv_loopInv` (entered at `DepInv_enter`) and put `update_mono`,
  `stepBody_mono` into `LoopInv.trace_pairwise`/`loop_rel`; `C01_shown` is `ShownDep.of_depInv`.
-/
import PDesy.Lemmas.Lifecycle
import PDesy.Lemmas.Logs

namespace PDesy
open Lifecycle

namespace C01Ex

theorem exTs_dep : DepInv exM exTs := by
  rw [depInv_iff]
  decide +kernel

/-- the invariant is not vacuous on the example: tasks 0, 1, 2 are constrained, 3 is exempt -/
example : ¬ exempt exM 1 ∧ ¬ exempt exM 2 ∧ exempt exM 3 := by
  decide +kernel

/-- and it really rejects a violating vector (task 1 READY while its FS predecessor 0 is WORKING) -/
example : ¬ DepInv exM (fun t => match t with | 0 => .working | 1 => .ready | _ => .none) := by
  rw [depInv_iff]
  decide +kernel

end C01Ex

/-- **C01 (start of a run).** After `initialize(state_info=True, log_info=…)` — i.e. in the
state a forward `simulate` with `initState = true` enters its loop from — the dependency
invariant holds: every non-exempt task is NONE, or READY with all its FS predecessors FINISHED
and SS predecessors started.  Covers both `initLog = true` (exempt tasks set FINISHED at once)
and `initLog = false` (they start NONE). -/
theorem C01_init (m : Model) (p : Params) (s : St) (h : p.initState = true) :
    DepInv m (enter m p s).live.tstate :=
  DepInv_enter m h s

example : ({ absence := [1] } : Params).initState = true := rfl

/-- the shape behind `C01_init`: every non-exempt task is NONE, or READY under an open start gate
(the bound `ht` is not needed: `initialize` resets the state at every index) -/
theorem C01_init_shape (m : Model) (p : Params) (s : St) (h : p.initState = true)
    (t : Nat) (ht : t < m.nT) (hex : ¬ exempt m t) :
    (enter m p s).live.tstate t = .none ∨
    ((enter m p s).live.tstate t = .ready ∧ readyGate m (enter m p s).live.tstate t = true) :=
  enter_shape m h s t hex

/-- **C01 (every recorded step).** If the dependency invariant holds in the state the loop
starts from, it holds at the end of every executed step (`ticked` boundary): no task has left
NONE before its FS predecessors FINISHED / SS predecessors started, none is FINISHED before
its FF predecessors FINISHED / SF predecessors started. -/
theorem C01_trace (m : Model) (p : Params) (s : St) (h : DepInv m s.live.tstate) :
    ∀ fuel, ∀ s' ∈ trace m p fuel s, DepInv m s'.live.tstate :=
  (DepInv_loopInv m p).trace h

example : DepInv exM exSt.live.tstate := C01Ex.exTs_dep

/-- **C01 (after every `__update`).** The same at the `updated` boundary of every iteration,
including the one at which the loop exits. -/
theorem C01_updTrace (m : Model) (p : Params) (s : St) (h : DepInv m s.live.tstate) :
    ∀ fuel, ∀ s' ∈ updTrace m p fuel s, DepInv m s'.live.tstate :=
  (DepInv_loopInv m p).updTrace h

example : DepInv exM exSt.live.tstate := C01Ex.exTs_dep

/-- the final state of the loop -/
theorem C01_loop (m : Model) (p : Params) (s : St) (h : DepInv m s.live.tstate) (fuel : Nat) :
    DepInv m (loop m p fuel s).live.tstate :=
  (DepInv_loopInv m p).loop h fuel

/-- **C01 (whole forward run, recorded steps).** In `simulate m p s` with `initState = true`
the dependency invariant holds at the end of every executed step, whatever the state `s` the
project was in before. -/
theorem C01_run (m : Model) (p : Params) (s : St) (h : p.initState = true) :
    ∀ s' ∈ runTrace m p s, DepInv m s'.live.tstate :=
  ((DepInv_loopInv m p).run (C01_init m p s h)).1

example : ({ absence := [1] } : Params).initState = true := rfl

/-- **C01 (whole forward run, after every `__update`).** -/
theorem C01_runUpd (m : Model) (p : Params) (s : St) (h : p.initState = true) :
    ∀ s' ∈ runUpdTrace m p s, DepInv m s'.live.tstate :=
  ((DepInv_loopInv m p).run (C01_init m p s h)).2.1

example : ({ absence := [1] } : Params).initState = true := rfl

/-- **C01 (final state).** The state `simulate` returns satisfies the dependency invariant. -/
theorem C01_final (m : Model) (p : Params) (s : St) (h : p.initState = true) :
    DepInv m (simulate m p s).live.tstate :=
  ((DepInv_loopInv m p).run (C01_init m p s h)).2.2

example : ({ absence := [1] } : Params).initState = true := rfl

/-- the run of the example model is not empty and ends successfully, so the three theorems
above talk about real states -/
example : (simulate exM {} St.fresh).status = .success ∧
    (runTrace exM {} St.fresh).length = 4 :=
  ⟨exM_run.1, exM_run.2.1⟩

/-- **C01 (lifecycle, phase level).** `__update` and one loop step only move task states
forward along NONE, READY, WORKING, FINISHED. -/
theorem C01_mono_phases (m : Model) (p : Params) (s : St) :
    Mono s.live.tstate (updated m s).live.tstate ∧
    Mono s.live.tstate (stepBody m p s).live.tstate :=
  ⟨update_mono m s.time s.live, stepBody_mono m p s⟩

/-- **C01 (lifecycle along the run).** Between the start state and any recorded step, and
between any earlier and any later recorded step, no task moves backward. -/
theorem C01_mono_trace (m : Model) (p : Params) (fuel : Nat) (s : St) :
    List.Pairwise (fun a b => Mono a.live.tstate b.live.tstate) (s :: trace m p fuel s) :=
  mono_trace m p fuel s

/-- … and the final state of the loop is not behind the start state either. -/
theorem C01_mono_loop (m : Model) (p : Params) (fuel : Nat) (s : St) :
    Mono s.live.tstate (loop m p fuel s).live.tstate :=
  LoopInv.of_true.loop_rel (fun a b => Mono a.live.tstate b.live.tstate) (fun _ => Mono.refl _)
    (fun _ _ _ => Mono.trans) (fun s _ => update_mono m s.time s.live) (fun s _ _ => stepBody_mono m p s)
    (fun _ _ => Mono.refl _) trivial fuel

/-- **C01 (lifecycle, whole run).** In `simulate m p s` the recorded steps are pairwise ordered
after the entered state and after each other; the returned state is after the entered state. -/
theorem C01_mono_run (m : Model) (p : Params) (s : St) :
    List.Pairwise (fun a b => Mono a.live.tstate b.live.tstate) (enter m p s :: runTrace m p s) ∧
    Mono (enter m p s).live.tstate (simulate m p s).live.tstate :=
  ⟨C01_mono_trace m p _ _, by rw [simulate_eq]; exact C01_mono_loop m p _ _⟩

/-- consequences in the usual words: FINISHED is absorbing, a started task stays started,
a task that left NONE never returns to it -/
theorem C01_mono_consequences {a b : Nat → TS} (h : Mono a b) (t : Nat) :
    (a t = .finished → b t = .finished) ∧ ((a t).started = true → (b t).started = true) ∧
    (a t ≠ .none → b t ≠ .none) :=
  ⟨fun h' => Mono.finished h h', fun h' => Mono.started h h', fun h' => Mono.ne_none h h'⟩

/-- what `record` appends to a task's state log is the *shown* state `showT working (live state)` -/
theorem C01_record (m : Model) (w : Bool) (l : Live) (lg : Logs) (t : Nat) (ht : t < m.nT) :
    (record m w l lg).tState t = lg.tState t ++ [showT w (l.tstate t)] :=
  record_tState w l lg t ht

/-- `showT` keeps FINISHED and NONE exactly, and differs from the live state only by showing a
WORKING task as READY on an absence step -/
theorem C01_showT (w : Bool) (x : TS) :
    (showT w x = .finished ↔ x = .finished) ∧ (showT w x = .none ↔ x = .none) ∧
    (showT w x ≠ x → w = false ∧ x = .working ∧ showT w x = .ready) :=
  ⟨showT_finished_iff w x, showT_none_iff w x, showT_ne w x⟩

/-- **C01 (as logged).** If the live states satisfy the dependency invariant, the row of shown
states satisfies the FS and FF clauses literally, and the SS / SF clauses with "started" read
as `shownStarted`: WORKING or FINISHED, or READY on an absence step. -/
theorem C01_shown (m : Model) (w : Bool) (ts : Nat → TS) (h : DepInv m ts) :
    ∀ t, t < m.nT → ¬ exempt m t →
      (showT w (ts t) ≠ .none → ∀ e ∈ (m.task t).inputs,
          (e.2 = .fs → showT w (ts e.1) = .finished) ∧
          (e.2 = .ss → shownStarted w (showT w (ts e.1)))) ∧
      (showT w (ts t) = .finished → ∀ e ∈ (m.task t).inputs,
          (e.2 = .ff → showT w (ts e.1) = .finished) ∧
          (e.2 = .sf → shownStarted w (showT w (ts e.1)))) :=
  ShownDep.of_depInv w h

example : DepInv exM exTs := C01Ex.exTs_dep

/-- **C01 (rows logged by a forward run).** For every recorded step `s'` of `simulate m p s`
(`initState = true`) there is a row of task states which is the last entry of every task's
state log at `s'` and which satisfies the dependency clauses as read off the log (`ShownDep`,
with the step's working/absence flag `workingAt p (s'.time - 1)`). -/
theorem C01_logged (m : Model) (p : Params) (s : St) (h : p.initState = true) :
    ∀ s' ∈ runTrace m p s, ∃ row : Nat → TS,
      (∀ t, t < m.nT → (s'.logs.tState t).getLast? = some (row t)) ∧
      ShownDep m (workingAt p (s'.time - 1)) row := by
  intro s' hs'
  refine ⟨fun t => showT (workingAt p (s'.time - 1)) (s'.live.tstate t), ?_, ?_⟩
  · obtain ⟨s1, rfl⟩ := trace_mem_stepBody m p _ _ s' hs'
    intro t ht
    rw [stepBody_time, Nat.add_sub_cancel]
    exact Logs.stepBody_tState s1 ht
  · exact C01_shown m _ _ (C01_run m p s h s' hs')

example : ({ absence := [1] } : Params).initState = true := rfl

end PDesy

#print axioms PDesy.C01_init
#print axioms PDesy.C01_init_shape
#print axioms PDesy.C01_trace
#print axioms PDesy.C01_updTrace
#print axioms PDesy.C01_loop
#print axioms PDesy.C01_run
#print axioms PDesy.C01_runUpd
#print axioms PDesy.C01_final
#print axioms PDesy.C01_mono_phases
#print axioms PDesy.C01_mono_trace
#print axioms PDesy.C01_mono_loop
#print axioms PDesy.C01_mono_run
#print axioms PDesy.C01_mono_consequences
#print axioms PDesy.C01_record
#print axioms PDesy.C01_showT
#print axioms PDesy.C01_shown
#print axioms PDesy.C01_logged
