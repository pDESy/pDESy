/-
  PDesy.Props.C15 — "A run paused at any step and resumed gives exactly the uninterrupted
  result".

  Stopping a simulation at an arbitrary step `k` (`max_time = k`) and continuing it with state
  and log initialisation switched off produces exactly the same project state — logs, costs,
  time, status, live data — as one uninterrupted run.

  FULL STATEMENT (for every model `m`, parameters `p`, start state `s`, `k ≤ M`):

      simulate m { p with maxTime := M, initState := false, initLog := false }
          (simulate m { p with maxTime := k } s)
        = simulate m { p with maxTime := M } s

  What is proved here:
  * `C15_of_update_idem`: the full statement for ANY model, from one hypothesis: the update
    block is idempotent at the states the run visits (given through an invariant).
  * `C15_update_idem`: the update block IS idempotent on its own output, phase by phase and
    without any assumption for `check_state(FINISHED)` (fixpoint), `product.check_state`,
    `check_removing_placed_workplace`, `check_state(READY)`; for `update_PERT_data` under
    "links stay inside the task list" (`WF`) and "no task with a finish-to-start successor has
    a negative remaining work amount at the PERT call".
  * `C15_partial`: the full statement for models in which no task has both a finish gate (an
    FF/SF predecessor) and a finish-to-start successor (`GateOK`; in particular for models
    without FF/SF links, `C15_partial_noGate`), with well-formed links, started either with
    `initState = true` from non-negative work amounts (`WorkOK`) or from any state whose
    non-WORKING tasks have non-negative remaining work.
  * `C15_of_pert_idem`: the full statement for any model, with the idempotence of
    `update_PERT_data` taken as an explicit hypothesis.

  The other FF/SF models: a WORKING task whose finish gate is closed keeps working and its
  remaining work goes negative.  If it has a finish-to-start successor, the forward relaxation
  along that link proposes an `est` below `time`, is rejected, and the successor keeps its old
  `eft`, which a later FF relaxation may read before it is rewritten.  On an ACYCLIC link graph
  every such stale read is overwritten before the waves die out ("last write wins"), and
  `PDesy.Props.C15General` proves the full statement there.  On a CYCLIC link graph the waves
  need not die out before the fuel `m.nT + 1` does, and on an arbitrary state `pert` is NOT
  idempotent (`cycM`, `cycL` below: tasks 0..3, links 0→3 SS, 1→2 FS, 1→3 FF, 2→1 FS, 3→2 FF,
  `rem = [2, 1/2, -1/2, -2]`, `eft = [5, 4, 6, 6]`, time 3: `eft 3` is 4 after one application
  and 7/2 after two, `cycM_eft`).  That state is not reachable (task 2 never starts), and no
  counterexample to the full statement of C15 is known (DESIGN.md II.4, C15 row).

  The theorems instantiate `Idem.resume`, `update_idem`, `updated_idem` (Lemmas/Idem) and
  `Idem.pert_idem` (Lemmas/PertIdem).
-/
import PDesy.Lemmas.Idem
import PDesy.Lemmas.Logs
import PDesy.Model.Ser

namespace PDesy

open Idem

/-- **C15, update block.**  Applying `__update` to a state that `__update` has just produced (at
the same time) changes nothing.  Hypotheses: dependency links stay inside the task list, and
after `check_state(FINISHED)` no task below `m.nT` that has a finish-to-start successor has a
negative remaining work amount (only the PERT recomputation needs them). -/
theorem C15_update_idem (m : Model) (hwf : WF m) (time : Nat) (l : Live)
    (hrem : ∀ t, t < m.nT → FsSrc m t → 0 ≤ (chkFinished m l).rem t) :
    update m time (update m time l) = update m time l :=
  update_idem m hwf time l hrem

/-- the same from hypotheses on the model and on the state before the block: no task has both
an FF/SF predecessor and an FS successor, and every non-WORKING task has a non-negative
remaining work amount -/
theorem C15_update_idem_gateOK (m : Model) (hwf : WF m) (hng : GateOK m) (time : Nat)
    (l : Live) (hrem : RemOK m l) : update m time (update m time l) = update m time l :=
  update_idem m hwf time l (chkFinished_rem_nonneg m hng l hrem)

/-- the phases other than PERT need no hypothesis at all: if `update_PERT_data` is idempotent,
so is the whole block, on every model and state -/
theorem C15_update_idem_of_pert (m : Model) (time : Nat) (l : Live)
    (hpert : ∀ l', pert m time (pert m time l') = pert m time l') :
    update m time (update m time l) = update m time l :=
  update_idem_of_pert m time l (hpert _)

/-- **C15, PERT part.**  `update_PERT_data` recomputed on its own output gives the same data
when no task with a finish-to-start successor has a negative remaining work amount (and links
stay inside the task list). -/
theorem C15_pert_idem (m : Model) (hwf : WF m) (time : Nat) (l : Live)
    (hrem : ∀ t, t < m.nT → FsSrc m t → 0 ≤ l.rem t) : pert m time (pert m time l) = pert m time l :=
  pert_idem m hwf time l hrem

/-- **C15, fuel.**  The result of the loop does not depend on the amount of fuel, as long as
there is enough of it (`fuelOf p s = p.maxTime - s.time + 1`, what `simulate` supplies). -/
theorem C15_fuel_irrelevant (m : Model) (p : Params) (fuel : Nat) (s : St)
    (h : fuelOf p s ≤ fuel) : loop m p fuel s = loop m p (fuelOf p s) s :=
  loop_eq_run m p fuel s h

/-- **C15, status.**  The loop never reads the `status` it was started with. -/
theorem C15_status_irrelevant (m : Model) (p : Params) (x : Status) (fuel : Nat) (s : St)
    (h : fuelOf p s ≤ fuel) : loop m p fuel { s with status := x } = loop m p fuel s := by
  rw [loop_eq_run m p fuel s h, loop_eq_run m p fuel { s with status := x } h, run_status]

/-- **C15, mode.**  The loop carries `mode` through untouched. -/
theorem C15_mode_irrelevant (m : Model) (p : Params) (x : Mode) (fuel : Nat) (s : St) :
    loop m p fuel { s with mode := x } = { loop m p fuel s with mode := x } :=
  loop_mode m p x fuel s

/-- re-setting `mode/absence/autoFlag` to the values they have is the identity -/
theorem C15_reenter (X : St) (a : List Nat) (b : Bool) (h1 : X.mode = .forward)
    (h2 : X.absence = a) (h3 : X.autoFlag = b) :
    ({ X with mode := .forward, absence := a, autoFlag := b } : St) = X :=
  reenter X a b h1 h2 h3

/-- **C15 from idempotence of the update block** (any model).  `Inv` is any property of the
states of the run that is kept by `__update` and by a step and at which `__update` is
idempotent; it must hold when the loop is entered. -/
theorem C15_of_update_idem (m : Model) (p : Params) (s : St) (k M : Nat) (hk : k ≤ M)
    (Inv : St → Prop)
    (hupd : ∀ s, Inv s → Inv (updated m s))
    (hstep : ∀ s, Inv s → Inv (stepBody m { p with maxTime := M } s))
    (hidem : ∀ s, Inv s → updated m (updated m s) = updated m s)
    (h0 : Inv (enter m { p with maxTime := M } s)) :
    simulate m { p with maxTime := M, initState := false, initLog := false }
        (simulate m { p with maxTime := k } s)
      = simulate m { p with maxTime := M } s :=
  resume m p s k M hk Inv hupd hstep hidem h0

/-- **C15 for any model, with the idempotence of `update_PERT_data` as a hypothesis.** -/
theorem C15_of_pert_idem (m : Model) (p : Params) (s : St) (k M : Nat) (hk : k ≤ M)
    (hpert : ∀ (time : Nat) (l : Live), pert m time (pert m time l) = pert m time l) :
    simulate m { p with maxTime := M, initState := false, initLog := false }
        (simulate m { p with maxTime := k } s)
      = simulate m { p with maxTime := M } s :=
  C15_of_update_idem m p s k M hk (fun _ => True) (fun _ _ => trivial) (fun _ _ => trivial)
    (fun s _ => updated_idem_of m s (update_idem_of_pert m s.time s.live (hpert s.time _))) trivial

/-- **C15 (partial: no task with both a finish gate and a finish-to-start successor).**  A run
paused at any step `k ≤ M` and resumed with `initState = initLog = false` ends in exactly the
state of the uninterrupted run to `M` — for every `k`, including `0` and values beyond the
makespan.

Hypotheses: links stay inside the task list (`WF`); no task has both an FF/SF predecessor and
an FS successor (`GateOK`); and the first run either initialises the state from non-negative
work amounts and default progress at most 1 (`WorkOK`), or starts from a state whose
non-WORKING tasks have non-negative remaining work (`RemOK`). -/
theorem C15_partial (m : Model) (p : Params) (s : St) (k M : Nat) (hk : k ≤ M)
    (hwf : WF m) (hng : GateOK m)
    (hstart : (p.initState = true ∧ WorkOK m) ∨ (p.initState = false ∧ RemOK m s.live)) :
    simulate m { p with maxTime := M, initState := false, initLog := false }
        (simulate m { p with maxTime := k } s)
      = simulate m { p with maxTime := M } s := by
  refine C15_of_update_idem m p s k M hk (fun s => RemOK m s.live)
    (fun s h => RemOK_update m s.time s.live h)
    (fun s h => RemOK_stepBody m _ s h)
    (fun s h => updated_idem m hwf hng s h) ?_
  rcases hstart with ⟨hi, hw⟩ | ⟨hi, hr⟩
  · exact RemOK_enter m hw { p with maxTime := M } s hi
  · rw [Lifecycle.enter_live_continue m (p := { p with maxTime := M }) hi]; exact hr

/-- **C15 for models without FF/SF links.** -/
theorem C15_partial_noGate (m : Model) (p : Params) (s : St) (k M : Nat) (hk : k ≤ M)
    (hwf : WF m) (hng : NoFinishGate m)
    (hstart : (p.initState = true ∧ WorkOK m) ∨ (p.initState = false ∧ RemOK m s.live)) :
    simulate m { p with maxTime := M, initState := false, initLog := false }
        (simulate m { p with maxTime := k } s)
      = simulate m { p with maxTime := M } s :=
  C15_partial m p s k M hk hwf hng.gateOK hstart

section corollaries
variable (m : Model) (p : Params) (s : St) (k M : Nat) (hk : k ≤ M) (hwf : WF m)
  (hng : GateOK m)
  (hstart : (p.initState = true ∧ WorkOK m) ∨ (p.initState = false ∧ RemOK m s.live))
include hk hwf hng hstart

/-- same logs (task/worker/facility/component states, allocations, all cost lists) -/
theorem C15_logs :
    (simulate m { p with maxTime := M, initState := false, initLog := false }
        (simulate m { p with maxTime := k } s)).logs
      = (simulate m { p with maxTime := M } s).logs :=
  congrArg St.logs (C15_partial m p s k M hk hwf hng hstart)

/-- same project cost list in particular -/
theorem C15_cost :
    (simulate m { p with maxTime := M, initState := false, initLog := false }
        (simulate m { p with maxTime := k } s)).logs.projCost
      = (simulate m { p with maxTime := M } s).logs.projCost :=
  congrArg (fun x => x.logs.projCost) (C15_partial m p s k M hk hwf hng hstart)

/-- same final time -/
theorem C15_time :
    (simulate m { p with maxTime := M, initState := false, initLog := false }
        (simulate m { p with maxTime := k } s)).time
      = (simulate m { p with maxTime := M } s).time :=
  congrArg St.time (C15_partial m p s k M hk hwf hng hstart)

/-- same final status -/
theorem C15_status :
    (simulate m { p with maxTime := M, initState := false, initLog := false }
        (simulate m { p with maxTime := k } s)).status
      = (simulate m { p with maxTime := M } s).status :=
  congrArg St.status (C15_partial m p s k M hk hwf hng hstart)

/-- same live state -/
theorem C15_live :
    (simulate m { p with maxTime := M, initState := false, initLog := false }
        (simulate m { p with maxTime := k } s)).live
      = (simulate m { p with maxTime := M } s).live :=
  congrArg St.live (C15_partial m p s k M hk hwf hng hstart)

end corollaries

/-! ### the hypotheses are satisfiable; `k ≤ M` is needed; `update_PERT_data` is not idempotent on
every state of every model -/

namespace C15Ex

/-- the parameters of the demo runs: step 1 is an absence step -/
def demoP : Params := { absence := [1] }

/-- the paused-and-resumed run (pause at `k`, then on to `M`) from a fresh project, serialised
(`St` holds functions, so states are compared through `putSt`) -/
def resumed (m : Model) (p : Params) (k M : Nat) : List String :=
  putSt m (simulate m { p with maxTime := M, initState := false, initLog := false }
    (simulate m { p with maxTime := k } St.fresh))

/-- the uninterrupted run to `M`, serialised -/
def straight (m : Model) (p : Params) (M : Nat) : List String :=
  putSt m (simulate m { p with maxTime := M } St.fresh)

theorem demo_wf : WF Logs.demo := by decide +kernel

theorem demo_noGate : NoFinishGate Logs.demo := by decide +kernel

theorem demo_workOK : WorkOK Logs.demo := by decide +kernel

open Lifecycle in
theorem exM_wf : WF exM := by decide +kernel

/-- `Lifecycle.exM` has FF and SF links, but the gated task (2) has no successor at all -/
theorem exM_gateOK : GateOK Lifecycle.exM := by decide +kernel

open Lifecycle in
theorem exM_workOK : WorkOK exM := by decide +kernel

/-- A model WITH finish gates, outside the reach of `C15_partial`: task 1 (work 1/2) may only
finish after task 0 (work 3) has (FF), so it overshoots to −1/2, −3/2, −5/2 behind the closed
gate; task 2 follows task 1 (FS), task 3 follows task 2 (FF) and task 0 (SF). -/
def ffM : Model where
  nT := 4
  nW := 2
  nF := 0
  nTeam := 1
  nWp := 0
  nC := 1
  task := fun t =>
    match t with
    | 0 => { name := 0, work := 3, outputs := [(1, .ff), (3, .sf)], comp := some 0 }
    | 1 => { name := 1, work := 1/2, inputs := [(0, .ff)], outputs := [(2, .fs)], comp := some 0 }
    | 2 => { name := 2, work := 1, inputs := [(1, .fs)], outputs := [(3, .ff)] }
    | _ => { name := 3, work := 3/2, inputs := [(2, .ff), (0, .sf)] }
  worker := fun w =>
    match w with
    | 0 => { team := 0, skills := [(0, 1), (2, 1)], cost := 2 }
    | _ => { team := 0, skills := [(1, 1), (3, 1)], cost := 3 }
  fac := fun _ => {}
  team := fun _ => { workers := [0, 1], targets := [0, 1, 2, 3] }
  wp := fun _ => {}
  comp := fun _ => { tasks := [0, 1] }

/-- a CYCLIC link graph (1 ⇄ 2 by FS, 3 → 2 by FF) on which `update_PERT_data` is not
idempotent at the (unreachable) state `cycL` -/
def cycM : Model where
  nT := 4
  nW := 0
  nF := 0
  nTeam := 0
  nWp := 0
  nC := 0
  task := fun t =>
    match t with
    | 0 => { name := 0, outputs := [(3, .ss)] }
    | 1 => { name := 1, inputs := [(2, .fs)], outputs := [(2, .fs), (3, .ff)] }
    | 2 => { name := 2, inputs := [(1, .fs), (3, .ff)], outputs := [(1, .fs)] }
    | _ => { name := 3, inputs := [(0, .ss), (1, .ff)], outputs := [(2, .ff)] }
  worker := fun _ => {}
  fac := fun _ => {}
  team := fun _ => {}
  wp := fun _ => {}
  comp := fun _ => {}

def cycL : Live :=
  { Live.empty with
    rem := fun t => match t with | 0 => 2 | 1 => 1/2 | 2 => -1/2 | _ => -2
    eft := fun t => match t with | 0 => 5 | 1 => 4 | 2 => 6 | _ => 6 }

theorem cycM_eft :
    (pert cycM 3 cycL).eft 3 = 4 ∧ (pert cycM 3 (pert cycM 3 cycL)).eft 3 = 7/2 := by
  decide +kernel

end C15Ex

open C15Ex

/-- the hypotheses of `C15_partial` are satisfiable: the demo model (two tasks in sequence, a
facility, an absence step), for every pause point `k` and horizon `M ≥ k` -/
example (k M : Nat) (hk : k ≤ M) :
    simulate Logs.demo { demoP with maxTime := M, initState := false, initLog := false }
        (simulate Logs.demo { demoP with maxTime := k } St.fresh)
      = simulate Logs.demo { demoP with maxTime := M } St.fresh :=
  C15_partial_noGate Logs.demo demoP St.fresh k M hk demo_wf demo_noGate (Or.inl ⟨rfl, demo_workOK⟩)

/-- `C15_partial` also covers models with FF and SF links, such as `Lifecycle.exM` -/
example (k M : Nat) (hk : k ≤ M) :
    simulate Lifecycle.exM { demoP with maxTime := M, initState := false, initLog := false }
        (simulate Lifecycle.exM { demoP with maxTime := k } St.fresh)
      = simulate Lifecycle.exM { demoP with maxTime := M } St.fresh :=
  C15_partial Lifecycle.exM demoP St.fresh k M hk exM_wf exM_gateOK (Or.inl ⟨rfl, exM_workOK⟩)

/-- … and the second way of starting: no state initialisation, from a state with no negative
remaining work -/
example : RemOK Logs.demo St.fresh.live := fun _ _ _ => Rat.le_refl

/-- the hypothesis of `C15_update_idem` holds at the fresh state of the demo model -/
example : ∀ t, t < Logs.demo.nT → FsSrc Logs.demo t →
    0 ≤ (chkFinished Logs.demo St.fresh.live).rem t := by
  decide +kernel

/-- the demo run is not trivial: it takes 4 steps and succeeds -/
example : (simulate Logs.demo { demoP with maxTime := 20 } St.fresh).time = 4 ∧
    (simulate Logs.demo { demoP with maxTime := 20 } St.fresh).status = .success :=
  ⟨Logs.demo_run.1, Logs.demo_run.2.1⟩

/-- in the terms of the serialised states: pausing the demo run at every `k = 0 … makespan + 2`
and resuming gives the uninterrupted state, field for field (instances of the theorem) -/
example : ∀ k ∈ List.range 7, resumed Logs.demo demoP k 20 = straight Logs.demo demoP 20 :=
  fun k hk => congrArg (putSt _) (C15_partial_noGate Logs.demo demoP St.fresh k 20
    (by have := List.mem_range.1 hk; omega) demo_wf demo_noGate (Or.inl ⟨rfl, demo_workOK⟩))

/-- the same when the horizon itself is too short (both runs end with FAILURE at time 2: evaluated) -/
example : (∀ k ∈ List.range 3, resumed Logs.demo demoP k 2 = straight Logs.demo demoP 2) ∧
    (simulate Logs.demo { demoP with maxTime := 2 } St.fresh).status = .failure :=
  ⟨fun k hk => congrArg (putSt _) (C15_partial_noGate Logs.demo demoP St.fresh k 2
    (by have := List.mem_range.1 hk; omega) demo_wf demo_noGate (Or.inl ⟨rfl, demo_workOK⟩)),
   by simp only [Fast.simulate_fast]; decide +kernel⟩

/-- `k ≤ M` is needed: pausing later than the horizon is not running to the horizon -/
example : resumed Logs.demo demoP 4 3 ≠ straight Logs.demo demoP 3 := by
  unfold resumed straight; simp only [Fast.simulate_fast]; decide +kernel

/-- the FF/SF model really overshoots behind a closed finish gate (pause and resume on it:
`PDesy.Props.C15General`) -/
example : (simulate ffM { maxTime := 20 } St.fresh).logs.tRem 1 = [-1/2, -3/2, -5/2, 0, 0] := by
  simp only [Fast.simulate_fast]; decide +kernel

/-- the hypothesis of `C15_of_pert_idem` cannot be had for every model: on the cyclic graph
`cycM`, with negative remaining work, the fuel of the forward pass runs out between the
stale read of `eft 1` and its correction (`eft 3` is 4 after one application, 7/2 after two) -/
example : (pert cycM 3 cycL).eft 3 = 4 ∧ (pert cycM 3 (pert cycM 3 cycL)).eft 3 = 7/2 :=
  cycM_eft

end PDesy

#print axioms PDesy.C15_update_idem
#print axioms PDesy.C15_update_idem_gateOK
#print axioms PDesy.C15_update_idem_of_pert
#print axioms PDesy.C15_pert_idem
#print axioms PDesy.C15_fuel_irrelevant
#print axioms PDesy.C15_status_irrelevant
#print axioms PDesy.C15_mode_irrelevant
#print axioms PDesy.C15_reenter
#print axioms PDesy.C15_of_update_idem
#print axioms PDesy.C15_of_pert_idem
#print axioms PDesy.C15_partial
#print axioms PDesy.C15_partial_noGate
#print axioms PDesy.C15_logs
#print axioms PDesy.C15_cost
#print axioms PDesy.C15_time
#print axioms PDesy.C15_status
#print axioms PDesy.C15_live
