/-
  PDesy.Props.C13 — "Component placement respects location, capacity, conveyor and site rules."

  At every step a component is placed at no more than one workplace, a workplace lists a
  component exactly when the component reports being placed there, and the space taken by the
  components placed at a workplace never exceeds the workplace's capacity.  A component enters a
  workplace that declares input workplaces only from one of those or from nowhere, moves at
  most once per step and never while one of its tasks is WORKING, and leaves the workplace once
  all tasks of its top-level component are FINISHED.  A task that needs a facility only ever
  works with facilities of the workplace where its component is placed at that step.

  The model covers FLAT products only; this is the clause `flat` of `Place.PlaceWF`.

  Stated with (Lemmas/Place) `PlaceWF m`, what is asked of the static model; `PlaceInv m l`, the
  property on one live state; `Inv m l`, `PlaceInv` strengthened for the induction; `passMoves`, the
  ghost list of the components one allocation pass moves.  The movement rules for one component are
  spelled out in the statements (`Place.MovedOk` in the lemmas).  The theorems instantiate `Inv_loopInv`,
  `Inv_enter`, `allocate_moves`, `stepBody_moves`, `update_removed` (Lemmas/Place).
-/
import PDesy.Lemmas.Place

namespace PDesy
open Place

namespace C13Ex

example : PlaceWF exP := exP_wf

/-- its run succeeds in two steps and really exercises placement: component 0 sits at
workplace 0 in the first step and is conveyed to workplace 1 in the second, where component 1
can take the freed workplace 0; each task holds the facility of the workplace its component is
at -/
theorem exP_run :
    (simulate exP {} St.fresh).status = .success ∧
    (runTrace exP {} St.fresh).map (fun s =>
        (s.live.placed 0, s.live.placed 1, s.live.wpComps 0, s.live.wpComps 1)) =
      [(some 0, Option.none, [0], []), (some 1, some 0, [1], [0])] ∧
    (runTrace exP {} St.fresh).map (fun s =>
        (s.live.allocF 0, s.live.allocF 1, s.live.allocF 2)) =
      [([0], [], []), ([], [1], [0])] := by
  simp only [Fast.simulate_fast, Fast.runTrace_fast]; decide +kernel

/-- at the last `__update` both (finished) components have been removed from their workplaces -/
theorem exP_updRun :
    (runUpdTrace exP {} St.fresh).map (fun s => (s.live.placed 0, s.live.placed 1)) =
      [(Option.none, Option.none), (some 0, Option.none), (Option.none, Option.none)] := by
  simp only [Fast.runUpdTrace_fast]; decide +kernel

/-- the invariant is not trivially true: a component listed by two workplaces violates it -/
example : ¬ PlaceInv exP { Live.empty with wpComps := fun _ => [0] } := by
  intro h
  have := h.unique (c := 0) (q1 := 0) (q2 := 1) (by decide) (by decide) (by decide)
    (by simp) (by simp)
  cases this

/-- … and so does a workplace filled beyond its capacity -/
example : ¬ PlaceInv exP { Live.empty with wpComps := fun q => if q = 0 then [0, 1] else [] } := by
  intro h
  have := h.cap 0 (by decide)
  revert this
  decide +kernel

end C13Ex

/-- **C13 (start of a run).** After `initialize(state_info=True, …)` — the state a forward
`simulate` with `initState = true` enters its loop from — nothing is placed and no facility is
held, so the placement invariant holds (capacities are non-negative by `PlaceWF.cap_nonneg`). -/
theorem C13_init (m : Model) (p : Params) (s : St) (wf : PlaceWF m) (h : p.initState = true) :
    Inv m (enter m p s).live :=
  Inv_enter m wf h s

example : PlaceWF exP ∧ ({ absence := [1] } : Params).initState = true := ⟨exP_wf, rfl⟩

/-- the strengthened invariant gives the placement property -/
theorem C13_inv_place {m : Model} {l : Live} (h : Inv m l) : PlaceInv m l := h.toPlaceInv

/-- `Inv` at every recorded step (the form used for induction) -/
theorem C13_trace_inv (m : Model) (p : Params) (s : St) (wf : PlaceWF m) (h : Inv m s.live) :
    ∀ fuel, ∀ s' ∈ trace m p fuel s, Inv m s'.live :=
  (Inv_loopInv m wf p).trace h

/-- `Inv` after every `__update` -/
theorem C13_updTrace_inv (m : Model) (p : Params) (s : St) (wf : PlaceWF m) (h : Inv m s.live) :
    ∀ fuel, ∀ s' ∈ updTrace m p fuel s, Inv m s'.live :=
  (Inv_loopInv m wf p).updTrace h

/-- **C13 (every recorded step).** For a well-formed flat model, if the (strengthened)
placement invariant holds in the state the loop starts from, then at the end of every executed
step: a workplace lists a component exactly when the component reports being placed there (so
a component is at no more than one workplace), the sizes of the components at a workplace sum
to at most its capacity, and every facility held by a task is a facility of the workplace where
the task's component is placed. -/
theorem C13_trace (m : Model) (p : Params) (s : St) (wf : PlaceWF m) (h : Inv m s.live) :
    ∀ fuel, ∀ s' ∈ trace m p fuel s, PlaceInv m s'.live := fun fuel s' hs' =>
  (C13_trace_inv m p s wf h fuel s' hs').toPlaceInv

example : PlaceWF exP ∧ Inv exP (enter exP {} St.fresh).live :=
  ⟨exP_wf, C13_init exP {} St.fresh exP_wf rfl⟩

/-- **C13 (after every `__update`).** The same at the `updated` boundary of every iteration,
including the one at which the loop exits. -/
theorem C13_updTrace (m : Model) (p : Params) (s : St) (wf : PlaceWF m) (h : Inv m s.live) :
    ∀ fuel, ∀ s' ∈ updTrace m p fuel s, PlaceInv m s'.live := fun fuel s' hs' =>
  (C13_updTrace_inv m p s wf h fuel s' hs').toPlaceInv

example : PlaceWF exP ∧ Inv exP (enter exP {} St.fresh).live :=
  ⟨exP_wf, C13_init exP {} St.fresh exP_wf rfl⟩

/-- **C13 (whole forward run, recorded steps).** In `simulate m p s` with `initState = true`,
whatever the state `s` the project was in before, the placement property holds at the end of
every executed step. -/
theorem C13_run (m : Model) (p : Params) (s : St) (wf : PlaceWF m) (h : p.initState = true) :
    ∀ s' ∈ runTrace m p s, PlaceInv m s'.live :=
  C13_trace m p _ wf (C13_init m p s wf h) _

example : PlaceWF exP ∧ ({ absence := [1] } : Params).initState = true := ⟨exP_wf, rfl⟩

/-- **C13 (whole forward run, after every `__update`).** -/
theorem C13_runUpd (m : Model) (p : Params) (s : St) (wf : PlaceWF m) (h : p.initState = true) :
    ∀ s' ∈ runUpdTrace m p s, PlaceInv m s'.live :=
  C13_updTrace m p _ wf (C13_init m p s wf h) _

example : PlaceWF exP ∧ ({ absence := [1] } : Params).initState = true := ⟨exP_wf, rfl⟩

/-- the final state of the loop -/
theorem C13_loop (m : Model) (p : Params) (s : St) (wf : PlaceWF m) (h : Inv m s.live)
    (fuel : Nat) : Inv m (loop m p fuel s).live :=
  (Inv_loopInv m wf p).loop h fuel

/-- **C13 (final state).** The state `simulate` returns satisfies the placement property. -/
theorem C13_final (m : Model) (p : Params) (s : St) (wf : PlaceWF m) (h : p.initState = true) :
    PlaceInv m (simulate m p s).live :=
  ((Inv_loopInv m wf p).run (C13_init m p s wf h)).2.2.toPlaceInv

example : PlaceWF exP ∧ ({ absence := [1] } : Params).initState = true := ⟨exP_wf, rfl⟩

/-- **C13 (at most one workplace).** Under the placement property a component is listed by at
most one workplace. -/
theorem C13_one_place (m : Model) (l : Live) (h : PlaceInv m l) (c q1 q2 : Nat)
    (hc : c < m.nC) (h1 : q1 < m.nWp) (h2 : q2 < m.nWp)
    (m1 : c ∈ l.wpComps q1) (m2 : c ∈ l.wpComps q2) : q1 = q2 :=
  h.unique hc h1 h2 m1 m2

example : PlaceInv exP (enter exP {} St.fresh).live :=
  (C13_init exP {} St.fresh exP_wf rfl).toPlaceInv

/-- **C13 (site).** Under the placement property, a facility `f` held by task `t` is listed by
a workplace `q` at which the component of `t` is placed. -/
theorem C13_site (m : Model) (l : Live) (h : PlaceInv m l) (t : Nat) (ht : t < m.nT)
    (f : Nat) (hf : f ∈ l.allocF t) :
    ∃ c q, (m.task t).comp = some c ∧ l.placed c = some q ∧ f ∈ (m.wp q).facs ∧
      (m.fac f).wp = q := by
  obtain ⟨c, h1, h2, h3⟩ := h.site t ht f hf
  exact ⟨c, _, h1, h2, h3, rfl⟩

example : PlaceInv exP (enter exP {} St.fresh).live :=
  (C13_init exP {} St.fresh exP_wf rfl).toPlaceInv

/-- **C13 (movement rules of one allocation pass).** Let `l' = allocate m lg rule l`.  The
ghost list `passMoves m lg rule l` of the components for which a move was executed during the
pass (it mirrors `allocTask`, and equals the model's `Alloc.moved`) has no duplicates — a
component moves at most once per pass, hence per step.  Every component whose placement differs
between `l` and `l'` is in that list.  For every component `c` in the list:
(i) none of its tasks is WORKING in `l` (`allocate` does not change task states);
(ii) it is now at a workplace `q < nWp`, and if `q` declares input workplaces then `c` was placed
nowhere in `l` or at one of those inputs (a second hop, which could enter from a non-input, is
excluded by the once-per-pass guard).  No hypothesis on the model or the state is needed. -/
theorem C13_moves (m : Model) (lg : Logs) (rule : TaskRule) (l : Live) :
    (passMoves m lg rule l).Nodup ∧
    (∀ c, (allocate m lg rule l).placed c ≠ l.placed c → c ∈ passMoves m lg rule l) ∧
    (∀ c ∈ passMoves m lg rule l,
      (∀ t ∈ (m.comp c).tasks, l.tstate t ≠ .working) ∧
      ∃ q, (allocate m lg rule l).placed c = some q ∧ q < m.nWp ∧
        ((m.wp q).inputs ≠ [] →
          l.placed c = Option.none ∨ ∃ q0, l.placed c = some q0 ∧ q0 ∈ (m.wp q).inputs)) :=
  allocate_moves m lg rule l

/-- the pass of the first step of the example run moves component 0 (and only it: component 1
does not fit) -/
example : passMoves exP (enter exP {} St.fresh).logs .tslack
    (absenceSet exP 0 true (updated exP (enter exP {} St.fresh)).live) = [0] := by
  decide +kernel

/-- the ghost list is the model's own `moved` list -/
theorem C13_moves_ghost (m : Model) (ts : List Nat) (acc : Alloc) :
    (ts.foldl (allocTask m) acc).moved = acc.moved ++ movesOf m acc ts :=
  foldl_allocTask_moved m ts acc

/-- **C13 (movement rules of one step).** If the placement of component `c` differs between
the start and the end of a step `stepBody m p s`, then the step is a working step, `c` was moved
by its (only) allocation pass, in which no component moves twice, no task of `c` was WORKING at
the start of the step, and `c` ended at a workplace `q < nWp` which, if it declares input
workplaces, `c` entered from one of them or from nowhere. -/
theorem C13_moves_step (m : Model) (p : Params) (s : St) (c : Nat)
    (h : (stepBody m p s).live.placed c ≠ s.live.placed c) :
    workingAt p s.time = true ∧
    c ∈ passMoves m s.logs p.rule (absenceSet m s.time true s.live) ∧
    (passMoves m s.logs p.rule (absenceSet m s.time true s.live)).Nodup ∧
    (∀ t ∈ (m.comp c).tasks, s.live.tstate t ≠ .working) ∧
    ∃ q, (stepBody m p s).live.placed c = some q ∧ q < m.nWp ∧
      ((m.wp q).inputs ≠ [] →
        s.live.placed c = Option.none ∨ ∃ q0, s.live.placed c = some q0 ∧ q0 ∈ (m.wp q).inputs) :=
  stepBody_moves m p s c h

/-- in the first step of the example run component 0 does change place -/
example : (stepBody exP {} (updated exP (enter exP {} St.fresh))).live.placed 0 ≠
    (updated exP (enter exP {} St.fresh)).live.placed 0 := by
  decide +kernel

/-- (i) for tasks named by their `comp` link: under `PlaceWF.comp_tasks`, no task whose target
component is a moved component is WORKING -/
theorem C13_moves_tasks (m : Model) (wf : PlaceWF m) (lg : Logs) (rule : TaskRule) (l : Live)
    (c : Nat) (hc : c ∈ passMoves m lg rule l) (t : Nat) (ht : t < m.nT)
    (hcomp : (m.task t).comp = some c) : l.tstate t ≠ .working :=
  ((allocate_moves m lg rule l).2.2 c hc).1 t (wf.comp_tasks t ht c hcomp)

example : PlaceWF exP := exP_wf

/-- **C13 (removal, one `__update`).** After `__update`, a component without parents all of
whose tasks are FINISHED is not placed anywhere.  (`chkReady` only turns NONE into READY, and
`compCheck`, `pert` touch neither placement nor task states, so the statement holds at the
`updated` boundary and not just right after `check_removing_placed_workplace`.) -/
theorem C13_removed (m : Model) (s : St) (c : Nat) (hc : c < m.nC)
    (hpar : (m.comp c).parents = [])
    (hfin : ∀ t ∈ (m.comp c).tasks, (updated m s).live.tstate t = .finished) :
    (updated m s).live.placed c = Option.none :=
  update_removed m s.time s.live c hc hpar hfin

/-- the premises are satisfiable: in the last `updated` state of the example run every task of
the top-level component 0 is FINISHED -/
example : ∃ s' ∈ runUpdTrace exP {} St.fresh,
    (exP.comp 0).parents = [] ∧ ∀ t ∈ (exP.comp 0).tasks, s'.live.tstate t = .finished := by
  simp only [Fast.runUpdTrace_fast]; decide +kernel

/-- **C13 (removal, flat model, whole run).** For a well-formed (flat) model, at every `updated`
boundary of a run no component all of whose tasks are FINISHED is still placed. -/
theorem C13_removed_run (m : Model) (p : Params) (s : St) (wf : PlaceWF m) :
    ∀ s' ∈ runUpdTrace m p s, ∀ c, c < m.nC →
      (∀ t ∈ (m.comp c).tasks, s'.live.tstate t = .finished) → s'.live.placed c = Option.none := by
  intro s' hs' c hc hfin
  obtain ⟨s1, rfl⟩ := updTrace_mem_updated m p _ _ s' hs'
  exact C13_removed m s1 c hc (wf.flat c hc).1 hfin

example : PlaceWF exP := exP_wf

/-- right after `check_removing_placed_workplace` itself -/
theorem C13_removed_phase (m : Model) (l : Live) (c : Nat) (hc : c < m.nC)
    (hpar : (m.comp c).parents = [])
    (hfin : ∀ t ∈ (m.comp c).tasks, (chkRemove m l).tstate t = .finished) :
    (chkRemove m l).placed c = Option.none :=
  chkRemove_removed m l c hc hpar hfin

/-- **C13 (phase level).** Every phase of the loop preserves the strengthened invariant
(`chkRemove`, `allocate` need the well-formedness of the model). -/
theorem C13_phases (m : Model) (wf : PlaceWF m) (l : Live) (h : Inv m l) :
    Inv m (chkFinished m l) ∧ Inv m (compCheck m l) ∧ Inv m (chkRemove m l) ∧
    Inv m (chkReady m l) ∧ (∀ time, Inv m (pert m time l)) ∧
    (∀ time w, Inv m (absenceSet m time w l)) ∧ (∀ lg rule, Inv m (allocate m lg rule l)) ∧
    Inv m (chkWorking m l) ∧ (∀ w a, Inv m (perform m w a l)) :=
  ⟨Inv_chkFinished m h, Inv_compCheck m h, Inv_chkRemove m wf h, Inv_chkReady m h,
   fun time => Inv_pert m time h, fun time w => Inv_absenceSet m time w h,
   fun lg rule => Inv_allocate m wf lg rule h, Inv_chkWorking m h,
   fun w a => Inv_perform m w a h⟩

example : PlaceWF exP ∧ Inv exP (enter exP {} St.fresh).live :=
  ⟨exP_wf, C13_init exP {} St.fresh exP_wf rfl⟩

end PDesy

#print axioms PDesy.C13Ex.exP_run
#print axioms PDesy.C13Ex.exP_updRun
#print axioms PDesy.C13_init
#print axioms PDesy.C13_inv_place
#print axioms PDesy.C13_trace_inv
#print axioms PDesy.C13_updTrace_inv
#print axioms PDesy.C13_trace
#print axioms PDesy.C13_updTrace
#print axioms PDesy.C13_run
#print axioms PDesy.C13_runUpd
#print axioms PDesy.C13_loop
#print axioms PDesy.C13_final
#print axioms PDesy.C13_one_place
#print axioms PDesy.C13_site
#print axioms PDesy.C13_moves
#print axioms PDesy.C13_moves_ghost
#print axioms PDesy.C13_moves_step
#print axioms PDesy.C13_moves_tasks
#print axioms PDesy.C13_removed
#print axioms PDesy.C13_removed_run
#print axioms PDesy.C13_removed_phase
#print axioms PDesy.C13_phases
