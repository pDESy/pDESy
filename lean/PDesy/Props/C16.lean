/-
  PDesy.Props.C16 — "Saving to JSON and loading restores everything that was saved, at any
  stage".

  Writing a project to JSON and reading it into a new project yields a project whose own JSON
  export equals the original file value-for-value, whose cross references (dependencies,
  component/task/team/workplace links, allocations, placements) all resolve to objects of the
  restored project, and which re-simulates to the same result.  Writing never fails.

  `PDesy.Model.Persist` models `write_simple_json` / `read_simple_json` as relabelling: in
  memory a cross reference is an object (an index), in the file it is an ID string (a label).
  `exportP ids m s` replaces every resolved reference by the label of its target, `importP ids
  sm ss` resolves every label to the FIRST object of its kind carrying it and fails when there
  is none.  "At any stage": `s` is an arbitrary state (fresh, mid-run, finished) in every theorem.

  The theorems instantiate `exportP_eq`, `relPair_reverse` with `Undoes.back` (load after save) and
  `Undoes.forth` (save after load), and `refsOK_of_rel` (Lemmas/PersistLemmas).
-/
import PDesy.Lemmas.PersistLemmas

namespace PDesy
open PDesy.PersistL

/-- If the IDs of the first `n` objects are pairwise distinct, looking up the ID of object `i`
finds object `i`. -/
theorem C16_resolve_label {lab : Nat → Nat} {n i : Nat}
    (hu : ∀ i j, i < n → j < n → lab i = lab j → i = j) (hi : i < n) :
    resolve lab n (lab i) = some i :=
  resolve_label hu hi

/-- What load guarantees: a successfully resolved reference is an object of the restored
project (`i < n`) and it carries the ID that was looked up. -/
theorem C16_resolve_some {lab : Nat → Nat} {n x i : Nat} (h : resolve lab n x = some i) :
    i < n ∧ lab i = x :=
  resolve_some h

/-- Writing never fails, for every model and every state, and the written value has the same
sizes, the same worker and facility tables, the same non-reference data in every task / team /
workplace / component record (all fields but the reference lists), the same non-reference live
data, and the same logs and scalars. -/
theorem C16_export_total (ids : Ids) (m : Model) (s : St) :
    ∃ sm ss, exportP ids m s = some (sm, ss) ∧
      (sm.nT = m.nT ∧ sm.nW = m.nW ∧ sm.nF = m.nF ∧ sm.nTeam = m.nTeam ∧ sm.nWp = m.nWp ∧
        sm.nC = m.nC) ∧
      sm.worker = m.worker ∧ sm.fac = m.fac ∧
      (∀ t, sm.task t =
        { m.task t with
          inputs := (sm.task t).inputs
          outputs := (sm.task t).outputs
          wps := (sm.task t).wps
          comp := (sm.task t).comp }) ∧
      (∀ a, sm.team a = { m.team a with targets := (sm.team a).targets }) ∧
      (∀ q, sm.wp q =
        { m.wp q with
          targets := (sm.wp q).targets
          inputs := (sm.wp q).inputs
          outputs := (sm.wp q).outputs }) ∧
      (∀ c, sm.comp c =
        { m.comp c with
          tasks := (sm.comp c).tasks
          parents := (sm.comp c).parents
          children := (sm.comp c).children }) ∧
      ss.live =
        { s.live with
          allocW := ss.live.allocW
          allocF := ss.live.allocF
          wasg := ss.live.wasg
          fasg := ss.live.fasg
          placed := ss.live.placed
          wpComps := ss.live.wpComps } ∧
      ss = { s with live := ss.live } := by
  refine ⟨_, _, exportP_eq ids m s, ⟨rfl, rfl, rfl, rfl, rfl, rfl⟩, rfl, rfl, ?_, ?_, ?_, ?_,
    rfl, rfl⟩
  all_goals intro t; unfold labModel; dsimp only; split <;> rfl

/-- What exactly is written: every in-range record with its references replaced by the IDs of
their targets (`labModel`, `labLive`), nothing else touched. -/
theorem C16_export_explicit (ids : Ids) (m : Model) (s : St) :
    exportP ids m s = some (labModel ids m, { s with live := labLive ids m s.live }) :=
  exportP_eq ids m s

/-- Loading what was saved gives back exactly the project that was saved — the whole static
model and the whole state (live data, logs, time, status, …), not only the in-range part —
provided IDs are unique within each kind and every reference points to an object of the
project. -/
theorem C16_import_export {ids : Ids} {m : Model} {s : St} {sm : Model} {ss : St}
    (hu : UniqueIds ids m) (ok : RefsOK m s.live) (hx : exportP ids m s = some (sm, ss)) :
    importP ids sm ss = some (m, s) := by
  -- load looks labels up in the table of the FILE, `ids.fromMap sm`; that table depends on the
  -- model through its six sizes only, and save keeps them: it is the table of `m`
  have hg : Inverts ids m (ids.fromMap sm) := by
    rw [fromMap_congr ids ((relPair_iff _ m s sm ss).1 hx).1.sizes]; exact inverts_fromMap hu
  exact relPair_reverse (.back hg ok) hx

/-- Under the same hypotheses the load does succeed. -/
theorem C16_import_succeeds {ids : Ids} {m : Model} {s : St} {sm : Model} {ss : St}
    (hu : UniqueIds ids m) (ok : RefsOK m s.live) (hx : exportP ids m s = some (sm, ss)) :
    ∃ m' s', importP ids sm ss = some (m', s') :=
  ⟨m, s, C16_import_export hu ok hx⟩

/-- The same, field by field: the loaded project has the sizes of the saved one, the same task /
team / workplace / component records and worker / facility tables, the same allocations,
assignments and placements, and everything else of the state is equal. -/
theorem C16_import_export_ranges {ids : Ids} {m : Model} {s : St} {sm : Model} {ss : St}
    {m' : Model} {s' : St}
    (hu : UniqueIds ids m) (ok : RefsOK m s.live) (hx : exportP ids m s = some (sm, ss))
    (hi : importP ids sm ss = some (m', s')) :
    (m'.nT = m.nT ∧ m'.nW = m.nW ∧ m'.nF = m.nF ∧ m'.nTeam = m.nTeam ∧ m'.nWp = m.nWp ∧
      m'.nC = m.nC) ∧
    (∀ t, t < m.nT → m'.task t = m.task t) ∧ (∀ a, a < m.nTeam → m'.team a = m.team a) ∧
    (∀ q, q < m.nWp → m'.wp q = m.wp q) ∧ (∀ c, c < m.nC → m'.comp c = m.comp c) ∧
    m'.worker = m.worker ∧ m'.fac = m.fac ∧
    (∀ t, t < m.nT → s'.live.allocW t = s.live.allocW t) ∧
    (∀ t, t < m.nT → s'.live.allocF t = s.live.allocF t) ∧
    (∀ w, w < m.nW → s'.live.wasg w = s.live.wasg w) ∧
    (∀ f, f < m.nF → s'.live.fasg f = s.live.fasg f) ∧
    (∀ c, c < m.nC → s'.live.placed c = s.live.placed c) ∧
    (∀ q, q < m.nWp → s'.live.wpComps q = s.live.wpComps q) ∧
    s' =
      { s with
        live :=
          { s.live with
            allocW := s'.live.allocW
            allocF := s'.live.allocF
            wasg := s'.live.wasg
            fasg := s'.live.fasg
            placed := s'.live.placed
            wpComps := s'.live.wpComps } } := by
  cases (C16_import_export hu ok hx).symm.trans hi
  exact ⟨⟨rfl, rfl, rfl, rfl, rfl, rfl⟩, fun _ _ => rfl, fun _ _ => rfl, fun _ _ => rfl,
    fun _ _ => rfl, rfl, rfl, fun _ _ => rfl, fun _ _ => rfl, fun _ _ => rfl, fun _ _ => rfl,
    fun _ _ => rfl, fun _ _ => rfl, rfl⟩

/-- Whatever file loads, the loaded project's own export is that file, value for value (whole
model, whole state).  No uniqueness and no well-formedness hypothesis: load resolves an ID to an
object carrying that ID, and save writes that object's ID. -/
theorem C16_reexport {ids : Ids} {sm : Model} {ss : St} {m' : Model} {s' : St}
    (hi : importP ids sm ss = some (m', s')) : exportP ids m' s' = some (sm, ss) :=
  relPair_reverse (.forth (sound_fromMap ids sm)) hi

/-- Save, load, save again: the second file equals the first value for value.  (An instance of
`C16_reexport`: the first three hypotheses are not used.) -/
theorem C16_export_import_export {ids : Ids} {m : Model} {s : St} {sm : Model} {ss : St}
    {m' : Model} {s' : St}
    (_hu : UniqueIds ids m) (_ok : RefsOK m s.live) (_hx : exportP ids m s = some (sm, ss))
    (hi : importP ids sm ss = some (m', s')) : exportP ids m' s' = some (sm, ss) :=
  C16_reexport hi

/-- After a successful load every cross reference of the restored project — dependencies,
task→workplace, task→component, team/workplace→task, workplace→workplace, component→task /
parent / child, allocations, assignments, placements — is an object of the restored project.
Needs nothing but `C16_resolve_some`. -/
theorem C16_refs_resolve {ids : Ids} {sm : Model} {ss : St} {m' : Model} {s' : St}
    (hi : importP ids sm ss = some (m', s')) : RefsOK m' s'.live := by
  obtain ⟨h1, h2, _⟩ := (relPair_iff _ sm ss m' s').1 hi
  exact refsOK_of_rel (sound_fromMap ids sm) h1 h2

/-- A file saved from a project with a dangling reference, or any file containing an ID that no
object of its kind carries, does not load silently: the only way for `importP` to succeed is
that every ID is found (contrapositive of `C16_refs_resolve` + `C16_reexport`): the file is
the export of a well-formed project. -/
theorem C16_loadable_iff {ids : Ids} {sm : Model} {ss : St} :
    (∃ m' s', importP ids sm ss = some (m', s')) ↔
      ∃ m' s', RefsOK m' s'.live ∧ exportP ids m' s' = some (sm, ss) ∧
        importP ids sm ss = some (m', s') :=
  ⟨fun ⟨m', s', h⟩ => ⟨m', s', C16_refs_resolve h, C16_reexport h, h⟩,
   fun ⟨m', s', _, _, h⟩ => ⟨m', s', h⟩⟩

/-- The restored project re-simulates to the same result as the saved one, whatever the
simulation parameters (in particular continuing a paused run with `initState = false`). -/
theorem C16_resimulate {ids : Ids} {m : Model} {s : St} {sm : Model} {ss : St}
    {m' : Model} {s' : St}
    (hu : UniqueIds ids m) (ok : RefsOK m s.live) (hx : exportP ids m s = some (sm, ss))
    (hi : importP ids sm ss = some (m', s')) (p : Params) :
    simulate m' p s' = simulate m p s := by
  cases (C16_import_export hu ok hx).symm.trans hi
  rfl

namespace C16Ex

/-- three tasks, the first two share the ID 7; task 2 depends on task 1 -/
def dupIds : Ids :=
  { task := fun i => if i ≤ 1 then 7 else 8, worker := id, fac := id, team := id, wp := id, comp := id }

def dupM : Model :=
  { nT := 3, nW := 0, nF := 0, nTeam := 0, nWp := 0, nC := 0,
    task := fun t => if t = 2 then { inputs := [(1, .fs)] } else {},
    worker := fun _ => {}, fac := fun _ => {}, team := fun _ => {}, wp := fun _ => {},
    comp := fun _ => {} }

theorem dupM_refsOK : RefsOK dupM St.fresh.live := by constructor <;> decide

end C16Ex

/-- With two tasks sharing an ID (and every reference in range), save followed by load succeeds
but changes a dependency: task 2 depended on task 1, after the round trip it depends on task 0
(load takes the first object carrying the ID). -/
theorem C16_unique_needed :
    (C16Ex.dupM.task 2).inputs = [(1, .fs)] ∧
    ((exportP C16Ex.dupIds C16Ex.dupM St.fresh).bind fun p => importP C16Ex.dupIds p.1 p.2).map
      (fun p => (p.1.task 2).inputs) = some [(0, .fs)] := by
  decide +kernel

/-- Hence `C16_import_export` is false without `UniqueIds`. -/
theorem C16_unique_needed_neg :
    ¬ ∀ (ids : Ids) (m : Model) (s : St) (sm : Model) (ss : St), RefsOK m s.live →
        exportP ids m s = some (sm, ss) → importP ids sm ss = some (m, s) := by
  intro h
  have hx := exportP_eq C16Ex.dupIds C16Ex.dupM St.fresh
  have c := C16_unique_needed.2
  -- the round trip computed there would have to return task 2 with its old input list
  rw [hx, Option.bind_some, h _ _ _ _ _ C16Ex.dupM_refsOK hx] at c
  revert c
  decide +kernel

namespace C16Ex

/-- IDs: 100+i for tasks, 200+i workers, 300+i facilities, 400+i teams, 500+i workplaces,
600+i components -/
def ids : Ids :=
  { task := fun i => 100 + i, worker := fun i => 200 + i, fac := fun i => 300 + i,
    team := fun i => 400 + i, wp := fun i => 500 + i, comp := fun i => 600 + i }

/-- 2 tasks (0 →FS 1), 1 team with 1 worker, 2 workplaces (0 → 1) with 1 facility, 2 components
(0 parent of 1) -/
def m : Model :=
  { nT := 2, nW := 1, nF := 1, nTeam := 1, nWp := 2, nC := 2,
    task := fun t =>
      if t = 0 then { work := 2, outputs := [(1, .fs)], wps := [0], comp := some 0, needFac := true }
      else { work := 1, inputs := [(0, .fs)], wps := [0, 1], comp := some 1 },
    worker := fun _ => { team := 0, skills := [(0, 1)] },
    fac := fun _ => { wp := 0, skills := [(0, 1)] },
    team := fun _ => { workers := [0], targets := [0, 1] },
    wp := fun q => if q = 0 then { facs := [0], targets := [0, 1], outputs := [1] }
                   else { targets := [1], inputs := [0] },
    comp := fun c => if c = 0 then { tasks := [0], children := [1] }
                     else { tasks := [1], parents := [0] } }

/-- a mid-run state: task 0 WORKING with worker 0 and facility 0, component 0 placed in
workplace 0 -/
def s : St :=
  { St.fresh with
    time := 1
    live := { Live.empty with
      tstate := fun t => if t = 0 then .working else .none
      allocW := fun t => if t = 0 then [0] else []
      allocF := fun t => if t = 0 then [0] else []
      wstate := fun _ => .working
      wasg := fun _ => [0]
      fstate := fun _ => .working
      fasg := fun _ => [0]
      placed := fun c => if c = 0 then some 0 else Option.none
      wpComps := fun q => if q = 0 then [0] else [] } }

/-- pairwise distinct below `n`, from the form with bounded quantifiers (which `decide` proves) -/
theorem uniq_of_ball {lab : Nat → Nat} {n : Nat}
    (h : ∀ i, i < n → ∀ j, j < n → lab i = lab j → i = j) :
    ∀ i j, i < n → j < n → lab i = lab j → i = j :=
  fun i j hi hj e => h i hi j hj e

theorem uniq : UniqueIds ids m :=
  ⟨uniq_of_ball (by decide), uniq_of_ball (by decide), uniq_of_ball (by decide),
   uniq_of_ball (by decide), uniq_of_ball (by decide), uniq_of_ball (by decide)⟩

theorem refsOK : RefsOK m s.live := by constructor <;> decide

end C16Ex

/-- the hypotheses of `C16_import_export` are satisfiable on a project with every kind of
reference, mid-run -/
example : UniqueIds C16Ex.ids C16Ex.m ∧ RefsOK C16Ex.m C16Ex.s.live ∧
    ∃ sm ss, exportP C16Ex.ids C16Ex.m C16Ex.s = some (sm, ss) :=
  ⟨C16Ex.uniq, C16Ex.refsOK, _, _, exportP_eq _ _ _⟩

/-- … and so the round trip is the identity there -/
example : ∃ sm ss, exportP C16Ex.ids C16Ex.m C16Ex.s = some (sm, ss) ∧
    importP C16Ex.ids sm ss = some (C16Ex.m, C16Ex.s) :=
  ⟨_, _, exportP_eq _ _ _, C16_import_export C16Ex.uniq C16Ex.refsOK (exportP_eq _ _ _)⟩

namespace C16Ex
/-- observations: static references -/
def obsM (p : Model × St) :=
  ((p.1.task 1).inputs, (p.1.task 1).wps, (p.1.task 1).comp, (p.1.team 0).targets)
def obsM2 (p : Model × St) :=
  ((p.1.wp 0).targets, (p.1.wp 0).outputs, (p.1.comp 0).tasks, (p.1.comp 0).children)
/-- observations: live references -/
def obsL (p : Model × St) :=
  (p.2.live.allocW 0, p.2.live.allocF 0, p.2.live.wasg 0, p.2.live.fasg 0)
/-- two more live references, and two values that are no references (a work amount, the clock) -/
def obsL2 (p : Model × St) :=
  (p.2.live.placed 0, p.2.live.wpComps 0, (p.1.task 1).work, p.2.time)
end C16Ex

/-- the file really contains IDs, not indices (the relabelling is not the identity) -/
example :
    (exportP C16Ex.ids C16Ex.m C16Ex.s).map C16Ex.obsM =
      some ([(100, .fs)], [500, 501], some 601, [100, 101]) ∧
    (exportP C16Ex.ids C16Ex.m C16Ex.s).map C16Ex.obsM2 =
      some ([100, 101], [501], [100], [601]) ∧
    (exportP C16Ex.ids C16Ex.m C16Ex.s).map C16Ex.obsL = some ([200], [300], [100], [100]) ∧
    (exportP C16Ex.ids C16Ex.m C16Ex.s).map C16Ex.obsL2 = some (some 500, [600], 1, 1) :=
  ⟨by decide +kernel, by decide +kernel, by decide +kernel, by decide +kernel⟩

/-- the round trip computed: every kind of reference comes back as the original index -/
example :
    ((exportP C16Ex.ids C16Ex.m C16Ex.s).bind fun p => importP C16Ex.ids p.1 p.2).map C16Ex.obsM =
      some ([(0, .fs)], [0, 1], some 1, [0, 1]) ∧
    ((exportP C16Ex.ids C16Ex.m C16Ex.s).bind fun p => importP C16Ex.ids p.1 p.2).map C16Ex.obsM2 =
      some ([0, 1], [1], [0], [1]) ∧
    ((exportP C16Ex.ids C16Ex.m C16Ex.s).bind fun p => importP C16Ex.ids p.1 p.2).map C16Ex.obsL =
      some ([0], [0], [0], [0]) ∧
    ((exportP C16Ex.ids C16Ex.m C16Ex.s).bind fun p => importP C16Ex.ids p.1 p.2).map C16Ex.obsL2 =
      some (some 0, [0], 1, 1) :=
  ⟨by decide +kernel, by decide +kernel, by decide +kernel, by decide +kernel⟩

/-- a file containing an ID that no object of its kind carries does not load (`importP` is not
trivially total): the raw in-memory model read as a file has the "IDs" 0 and 1 in its reference
lists, and every real ID is ≥ 100 -/
example : (importP C16Ex.ids C16Ex.m C16Ex.s).isNone = true := by decide +kernel

/-- the hypothesis of `C16_reexport` / `C16_refs_resolve` is satisfiable -/
example : ∃ sm ss m' s', importP C16Ex.ids sm ss = some (m', s') :=
  ⟨_, _, _, _, C16_import_export C16Ex.uniq C16Ex.refsOK (exportP_eq _ _ _)⟩

/-- `resolve` on a concrete table: first match wins, missing label fails -/
example : resolve (fun i => if i ≤ 1 then 7 else 8) 3 7 = some 0 ∧
    resolve (fun i => if i ≤ 1 then 7 else 8) 3 8 = some 2 ∧
    resolve (fun i => if i ≤ 1 then 7 else 8) 3 9 = Option.none := by decide

end PDesy

#print axioms PDesy.C16_resolve_label
#print axioms PDesy.C16_resolve_some
#print axioms PDesy.C16_export_total
#print axioms PDesy.C16_export_explicit
#print axioms PDesy.C16_import_export
#print axioms PDesy.C16_import_succeeds
#print axioms PDesy.C16_import_export_ranges
#print axioms PDesy.C16_reexport
#print axioms PDesy.C16_export_import_export
#print axioms PDesy.C16_refs_resolve
#print axioms PDesy.C16_loadable_iff
#print axioms PDesy.C16_resimulate
#print axioms PDesy.C16_unique_needed
#print axioms PDesy.C16_unique_needed_neg
