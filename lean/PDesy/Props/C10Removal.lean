/-
  PDesy.Props.C10Removal — C10, clause 3: "for projects without individually absent resources
  and without component-bound automatic tasks, deleting the project-wide absence steps from the
  result (`remove_absence_time_list`) gives exactly the result of simulating without absence".

  Run A = `simulate m { p with absence := L } s`, run B = `simulate m { p with absence := [] } s`.
  The argument is that of Lemmas/Removal.lean; its steps are stated here in the terms of the
  property: the order of `sort_task_list` does not depend on the time, what the deletion does to
  the row of one step, one step of the two runs, the runs.

  Hypotheses of `C10_removal` beyond the ones in the property text:
    - the rule is not FIFO (kept finding F16);
    - TSLACK only inside `SlackOK m` (FS links only, consistent link lists, acyclic).  This is
      weakened to "consistent link lists, acyclic, any link kinds" in PDesy/Props/C10Slack.lean
      (`C10_removal_tslack_general`), since the backward pass records the tasks it has set
      (`calculated_task_set`) instead of testing `lft < 0` for "not yet set" (F30) — with that test
      the statement was false for mixed link kinds (history in C10Slack.lean);
    - `WF m`: in-range links;
    - `perform_auto_task_while_absence_time` off, both `initialize` flags set;
    - run A ends with SUCCESS (then run B does too: proved, not assumed).
  Hypotheses of `C10_removal` that its proof does not use (`Removal.removal_sortAgree` does
  without them): `CompNoAuto m` (no component lists an automatic task, the form of "no
  component-bound automatic task") is used nowhere; `WorkOK m` and `initState = true` only establish
  the fields `goodA`, `goodB` of `Removal.Rel`, which nothing reads.
  Not needed since `check_state(WORKING)` does not run at project absence steps any more (F29): no
  SS / SF link out of an automatic task (`ssM` below), positive work of automatic tasks (`zwM`
  below, F26).

  The theorems instantiate `pert_est_shift`, `taskLe_pert_shift_dag` (Lemmas/PertShift) and
  `removeLogs_addRow_keep`/`_drop`, `sim_working`, `sim_absence`, `removal_of_sim`, `removal` (Lemmas/Removal).
-/
import PDesy.Lemmas.Removal
import PDesy.Lemmas.SlackShift
import PDesy.Lemmas.Fast
import PDesy.Model.Ser

namespace PDesy
open PDesy.Removal PDesy.Idem

/-- **C10.3, forward pass.**  `pert` at time `time + d` on a state with the same remaining work
as `l` gives, for every task below `m.nT`, the `est` that `pert` at time `time` gives on `l`, plus
`d` — for any mix of FS/SS/FF/SF links (`WF`: links stay inside the task list). -/
theorem C10_est_shift (m : Model) (hwf : WF m) (l l' : Live) (hr : l'.rem = l.rem) (time d : Nat) :
    ∀ t, t < m.nT → (pert m (time + d) l').est t = (pert m time l).est t + (d : Rat) :=
  SlackShift.pert_est_shift hwf l l' hr time d

/-- **C10.3, total slack.**  On a finish-to-start network with consistent, acyclic link lists and
no negative remaining work the slack `lst − est` of every task does not depend on the time.
(That the links are finish-to-start is not used: `C10_slack_shift_nonneg`, Props/C10Slack.lean.) -/
theorem C10_slack_shift {m : Model} (hs : SlackOK m) (l l' : Live) (hr : l'.rem = l.rem)
    (hrem : ∀ t, t < m.nT → 0 ≤ l.rem t) (time d : Nat) :
    ∀ t, t < m.nT → (pert m (time + d) l').lst t - (pert m (time + d) l').est t =
      (pert m time l).lst t - (pert m time l).est t :=
  SlackShift.pert_slack_shift_nonneg hs.2.1 hs.2.2 l l' hr hrem time d

/-- **C10.3, the comparison of `sort_task_list`.**  For every rule but FIFO the comparison
function read off the PERT data computed `d` steps later (and off any other logs) is, below
`m.nT`, the comparison function read off the PERT data computed now.  (FIFO's key counts READY log
entries, which absence steps inflate: kept finding F16.  Of `hsl` only "consistent link lists,
acyclic" is used: `C10_taskLe_shift_general`, Props/C10Slack.lean.) -/
theorem C10_taskLe_shift (m : Model) (hwf : WF m) (rule : TaskRule) (hrule : rule ≠ .fifo)
    (l l' : Live) (hr : l'.rem = l.rem)
    (hsl : rule = .tslack → SlackOK m ∧ ∀ t, t < m.nT → 0 ≤ l.rem t)
    (time d : Nat) (lg lg' : Logs) (a b : Nat) (ha : a < m.nT) (hb : b < m.nT) :
    taskLe m (pert m (time + d) l') lg' rule a b = taskLe m (pert m time l) lg rule a b :=
  SlackShift.taskLe_pert_shift_dag hwf rule hrule l l' hr (fun h => (hsl h).1.2) time d lg lg' a b ha hb

/-- FIFO really is different: one more READY entry in a log changes the order. -/
example :
    taskLe Logs.demo Live.empty { Logs.empty with tState := fun t => if t = 0 then [.ready] else [] } .fifo 1 0
      ≠ taskLe Logs.demo Live.empty Logs.empty .fifo 1 0 := by decide +kernel

/-- **C10.3, a working step and the logs.**  Deleting ascending steps, all before `s.time`, from
the aligned logs of `s` with one more row appended is deleting them first and appending the same
row afterwards. -/
theorem C10_rows_kept (m : Model) (wk : Bool) (l4 l5 : Live) (s : St) (h : Aligned m s)
    (steps : List Nat) (hp : steps.Pairwise (· < ·)) (hlt : ∀ d ∈ steps, d < s.time) :
    removeLogs m steps (addRow m wk l4 l5 s.logs) = addRow m wk l4 l5 (removeLogs m steps s.logs) :=
  removeLogs_addRow_keep m wk l4 l5 s h steps hp hlt

/-- **C10.3, an absence step and the logs.**  The row appended at step `s.time` is exactly what
deleting the step `s.time` (besides earlier ones) removes. -/
theorem C10_rows_dropped (m : Model) (wk : Bool) (l4 l5 : Live) (s : St) (h : Aligned m s)
    (steps : List Nat) :
    removeLogs m (steps ++ [s.time]) (addRow m wk l4 l5 s.logs) = removeLogs m steps s.logs :=
  removeLogs_addRow_drop m wk l4 l5 s h steps

/-- the live state at the cost/perform boundary of a step (`l4` in `stepBody`): `Perform.preCost m p s`
with the fields of `p` and `s` it reads as arguments.  Only the `example` below mentions it: the rows of
`C10_rows_kept` / `C10_rows_dropped` are the rows of a step. -/
def Removal.preLive (m : Model) (lg : Logs) (rule : TaskRule) (af : Bool) (τ : Nat) (wk : Bool) (l : Live) :
    Live :=
  let l2 := if wk then allocate m lg rule (absenceSet m τ wk l) else absenceSet m τ wk l
  compCheck m (if wk || af then chkWorking m l2 else l2)

/-- the rows in question are the ones `stepBody` appends -/
example (m : Model) (p : Params) (s : St) :
    (stepBody m p s).logs = addRow m (!(p.absence.contains s.time))
      (preLive m s.logs p.rule p.autoFlag s.time (!(p.absence.contains s.time)) s.live)
      (stepBody m p s).live s.logs :=
  rfl

/-- **C10.3, a working step preserves the relation.**  `a0`, `b0`: states of run A (parameters
`pA`) and run B (`pB`: same rule and flag, no absence) at the top of an iteration, related by
`Removal.Rel`; if the step at `a0.time` is a working step of A, the states at the top of the next
iteration are related again (same `d`).  Model side conditions (`Removal.ModelOK`): no individual
absences, no component lists an automatic task, in-range links, rule ≠ FIFO, TSLACK only inside
`SlackOK`. -/
theorem C10_working_step (m : Model) (pA pB : Params) (hm : ModelOK m pA.rule)
    (hrule : pB.rule = pA.rule) (haf : pB.autoFlag = pA.autoFlag) (hB : pB.absence = [])
    (a0 b0 : St) (h : Rel m pA.absence a0 b0) (hw : pA.absence.contains a0.time = false) :
    Rel m pA.absence (stepBody m pA (updated m a0)) (stepBody m pB (updated m b0)) :=
  (sim_working m pA pB hm.noInd (sortAgree_of_modelOK m pA.rule hm pA.absence) hrule haf hB a0 b0
      h.sim hw).rel
    (Good.stepBody pA (s := updated m a0) (h.goodA.update _))
    (Good.stepBody pB (s := updated m b0) (h.goodB.update _))

/-- **C10.3, an absence step.**  With `perform_auto_task_while_absence_time` off, an absence
step of run A leads to the relation with the *same* state of run B (`d` grows by one): the step
changes no task state, no remaining work and no allocation — only the resource states in range,
which the next step recomputes —, the `__update` after it changes nothing but the PERT data, and
the rows it appends are the ones `remove_absence_time_list` deletes (`C10_rows_dropped`).  No
condition on the model and no further invariant of run A is needed. -/
theorem C10_absence_step_current (m : Model) (pA : Params) (hflag : pA.autoFlag = false)
    (a0 b0 : St) (h : Rel m pA.absence a0 b0) (hc : pA.absence.contains a0.time = true) :
    Rel m pA.absence (stepBody m pA (updated m a0)) b0 :=
  (sim_absence m pA hflag a0 b0 h.sim hc).rel (Good.stepBody pA (s := updated m a0) (h.goodA.update _))
    h.goodB

/-- the same as the hypothesis `AbsStepOK` of `C10_removal_of_absence_step` -/
theorem C10_absStepOK (m : Model) (pA : Params) (hflag : pA.autoFlag = false) :
    AbsStepOK m pA (fun _ => True) :=
  fun a0 b0 h _ hc => C10_absence_step_current m pA hflag a0 b0 h hc

/-- **C10.3 from the absence-step lemma.**  For every absence list `L` (empty, runs, duplicates,
steps beyond the end): if run A ends with SUCCESS, and one absence step of run A leads to the
relation with the same state of run B (`AbsStepOK`, for some invariant `J` of run A), then
`remove_absence_time_list` applied to the result of run A gives the logs, the clock and the
status of run B, and run B ends with SUCCESS too.  Nothing else in this theorem depends on what
happens at an absence step. -/
theorem C10_removal_of_absence_step (m : Model) (p : Params) (L : List Nat) (s : St)
    (hm : ModelOK m p.rule) (hw : WorkOK m) (hs : p.initState = true) (hl : p.initLog = true)
    (J : St → Prop) (hJ0 : J (enter m { p with absence := L } s))
    (hJ : ∀ a0, J a0 → J (stepBody m { p with absence := L } (updated m a0)))
    (habs : AbsStepOK m { p with absence := L } J)
    (hsucc : (simulate m { p with absence := L } s).status = .success) :
    (removeAbs m (simulate m { p with absence := L } s)).logs = (simulate m { p with absence := [] } s).logs ∧
    (removeAbs m (simulate m { p with absence := L } s)).time = (simulate m { p with absence := [] } s).time ∧
    (removeAbs m (simulate m { p with absence := L } s)).status =
      (simulate m { p with absence := [] } s).status ∧
    (simulate m { p with absence := [] } s).status = .success :=
  removal_of_sim m p L s (fun a b => Rel m L a b ∧ J a) (fun _ _ h => h.1.sim)
    (fun a b h hc => ⟨C10_working_step m { p with absence := L } { p with absence := [] } hm rfl rfl
      rfl a b h.1 hc, hJ a h.2⟩)
    (fun a b h hc => ⟨habs a b h.1 h.2 hc, hJ a h.2⟩) ⟨enter_rel m hw p L s hs hl, hJ0⟩ hsucc

/-- **C10.3.**  For a model without individual absences and without automatic tasks in
components (`ModelOK`: also in-range links, rule ≠ FIFO, TSLACK only on finish-to-start
networks), with non-negative work amounts and default progress ≤ 1 (`WorkOK`), with
`perform_auto_task_while_absence_time` off and both `initialize` flags set, and
for every absence list `L` (empty, runs, duplicates, steps beyond the end): if the run with
absence list `L` ends with SUCCESS, then deleting the project-wide absence steps from its result
(`remove_absence_time_list`) gives exactly the logs, the clock and the status of the run without
absence, which ends with SUCCESS as well. -/
theorem C10_removal (m : Model) (p : Params) (L : List Nat) (s : St)
    (hm : ModelOK m p.rule) (hw : WorkOK m) (hs : p.initState = true)
    (hl : p.initLog = true) (hflag : p.autoFlag = false)
    (hsucc : (simulate m { p with absence := L } s).status = .success) :
    (removeAbs m (simulate m { p with absence := L } s)).logs = (simulate m { p with absence := [] } s).logs ∧
    (removeAbs m (simulate m { p with absence := L } s)).time = (simulate m { p with absence := [] } s).time ∧
    (removeAbs m (simulate m { p with absence := L } s)).status =
      (simulate m { p with absence := [] } s).status ∧
    (simulate m { p with absence := [] } s).status = .success :=
  removal m p L s hm hw hs hl hflag hsucc

/-- four tasks in a diamond of finish-to-start links: `0` ordinary, then `1` automatic (no
component, 2 units of work) and `2` ordinary side by side, then `3` ordinary; one worker who can
do the ordinary ones -/
def rmM : Model where
  nT := 4
  nW := 1
  nF := 0
  nTeam := 1
  nWp := 0
  nC := 0
  task := fun t =>
    match t with
    | 0 => { name := 0, work := 2, outputs := [(1, .fs), (2, .fs)] }
    | 1 => { name := 1, work := 2, isAuto := true, inputs := [(0, .fs)], outputs := [(3, .fs)] }
    | 2 => { name := 2, work := 1, inputs := [(0, .fs)], outputs := [(3, .fs)] }
    | _ => { name := 3, work := 1, inputs := [(1, .fs), (2, .fs)] }
  worker := fun _ => { team := 0, skills := [(0, 1), (2, 1), (3, 1)] }
  fac := fun _ => {}
  team := fun _ => { workers := [0], targets := [0, 1, 2, 3] }
  wp := fun _ => {}
  comp := fun _ => {}

theorem rmM_ok (rule : TaskRule) (h : rule ≠ .fifo) : ModelOK rmM rule where
  noInd := ⟨fun _ _ => rfl, fun _ _ => rfl⟩
  compNoAuto := fun _ _ ht => nomatch ht
  wf := by decide +kernel
  notFifo := h
  slack := fun _ => ⟨by decide +kernel, by decide +kernel, id, by decide +kernel⟩

theorem rmM_workOK : WorkOK rmM := by decide +kernel

/-- the absence list of the example: step 1 twice, step 3, and a step far beyond the end -/
def rmL : List Nat := [1, 1, 3, 30]

/-- run A of the example (default rule TSLACK), evaluated once -/
theorem rmM_runA :
    (simulate rmM { absence := rmL, maxTime := 40 } St.fresh).status = .success ∧
    (simulate rmM { absence := rmL, maxTime := 40 } St.fresh).time = 7 ∧
    (removeAbs rmM (simulate rmM { absence := rmL, maxTime := 40 } St.fresh)).time = 5 ∧
    (simulate rmM { absence := rmL, maxTime := 40 } St.fresh).logs.tState 1 =
      [.none, .none, .none, .ready, .working, .working, .finished] ∧
    (removeAbs rmM (simulate rmM { absence := rmL, maxTime := 40 } St.fresh)).logs.tState 1 =
      [.none, .none, .working, .working, .finished] := by
  simp only [Fast.simulate_fast]; decide +kernel

/-- `C10_removal` for the example in the spelling of the examples below -/
theorem rmM_removal :
    (removeAbs rmM (simulate rmM { absence := rmL, maxTime := 40 } St.fresh)).logs =
      (simulate rmM { absence := [], maxTime := 40 } St.fresh).logs ∧
    (removeAbs rmM (simulate rmM { absence := rmL, maxTime := 40 } St.fresh)).time =
      (simulate rmM { absence := [], maxTime := 40 } St.fresh).time :=
  have h := C10_removal rmM { maxTime := 40 } rmL St.fresh (rmM_ok .tslack (by decide)) rmM_workOK
    rfl rfl rfl rmM_runA.1
  ⟨h.1, h.2.1⟩

/-- run A of the example ends with SUCCESS, after 7 steps of which 2 are absence steps; run B
takes 5 -/
example : (simulate rmM { absence := rmL, maxTime := 40 } St.fresh).status = .success ∧
    (simulate rmM { absence := rmL, maxTime := 40 } St.fresh).time = 7 ∧
    (simulate rmM { absence := [], maxTime := 40 } St.fresh).time = 5 :=
  ⟨rmM_runA.1, rmM_runA.2.1, rmM_removal.2.symm.trans rmM_runA.2.2.1⟩

/-- `C10_removal` applies to the example (default rule TSLACK) … -/
example :
    (removeAbs rmM (simulate rmM { absence := rmL, maxTime := 40 } St.fresh)).logs =
      (simulate rmM { absence := [], maxTime := 40 } St.fresh).logs :=
  rmM_removal.1

/-- … and to it under every admitted rule (absence list `[1, 1, 3, 30]`; evaluated: run A ends
with SUCCESS under each of them), here for the serialised logs, the clock and the status -/
example : ∀ rule ∈ [TaskRule.tslack, .est, .spt, .lpt, .lrpt, .srpt, .lwrpt, .swrpt],
    putLogs rmM (removeAbs rmM (simulate rmM { rule := rule, absence := rmL, maxTime := 40 } St.fresh)).logs =
      putLogs rmM (simulate rmM { rule := rule, absence := [], maxTime := 40 } St.fresh).logs ∧
    (removeAbs rmM (simulate rmM { rule := rule, absence := rmL, maxTime := 40 } St.fresh)).time =
      (simulate rmM { rule := rule, absence := [], maxTime := 40 } St.fresh).time ∧
    (removeAbs rmM (simulate rmM { rule := rule, absence := rmL, maxTime := 40 } St.fresh)).status =
      (simulate rmM { rule := rule, absence := [], maxTime := 40 } St.fresh).status := by
  have hA : ∀ rule ∈ [TaskRule.tslack, .est, .spt, .lpt, .lrpt, .srpt, .lwrpt, .swrpt],
      (simulate rmM { rule := rule, absence := rmL, maxTime := 40 } St.fresh).status = .success := by
    simp only [Fast.simulate_fast]; decide +kernel
  intro rule hr
  have hne : rule ≠ .fifo := by rintro rfl; simp at hr
  obtain ⟨hl, ht, hs, -⟩ := C10_removal rmM { rule := rule, maxTime := 40 } rmL St.fresh
    (rmM_ok rule hne) rmM_workOK rfl rfl rfl (hA rule hr)
  exact ⟨congrArg (putLogs rmM) hl, ht, hs⟩

/-- the removal is not trivial: before it the state log of the automatic task shows NONE at the
absence step 1 and READY at the absence step 3 (it becomes READY there and is not started: it
starts at step 4), afterwards these rows are gone -/
example :
    (simulate rmM { absence := rmL, maxTime := 40 } St.fresh).logs.tState 1 =
      [.none, .none, .none, .ready, .working, .working, .finished] ∧
    (removeAbs rmM (simulate rmM { absence := rmL, maxTime := 40 } St.fresh)).logs.tState 1 =
      [.none, .none, .working, .working, .finished] :=
  rmM_runA.2.2.2

/-! ### two exceptions of the time before F29 that are positive examples now -/

/-- task `0` automatic (work 2, no component), task `1` ordinary with a start-to-start link from
`0`; one worker -/
def ssM : Model where
  nT := 2
  nW := 1
  nF := 0
  nTeam := 1
  nWp := 0
  nC := 0
  task := fun t =>
    match t with
    | 0 => { name := 0, work := 2, isAuto := true, outputs := [(1, .ss)] }
    | _ => { name := 1, work := 1, inputs := [(0, .ss)] }
  worker := fun _ => { team := 0, skills := [(1, 1)] }
  fac := fun _ => {}
  team := fun _ => { workers := [0], targets := [0, 1] }
  wp := fun _ => {}
  comp := fun _ => {}

/-- **An SS link out of an automatic task** (a counterexample before F29: while
`check_state(WORKING)` ran at absence steps, the automatic task `0` was switched to WORKING at
the absence step 0 and its SS successor `1` became READY one working step early).  Nothing
starts at the absence step 0 any more: after deleting it the logs, the clock and the status are those of
the run without absence; the state log of task 1 is `[NONE, WORKING]` on both sides. -/
example :
    (simulate ssM { absence := [0], maxTime := 20 } St.fresh).status = .success ∧
    (simulate ssM { absence := [], maxTime := 20 } St.fresh).status = .success ∧
    (simulate ssM { absence := [0], maxTime := 20 } St.fresh).logs.tState 1 = [.none, .none, .working] ∧
    (removeAbs ssM (simulate ssM { absence := [0], maxTime := 20 } St.fresh)).logs.tState 1 =
      [.none, .working] ∧
    (simulate ssM { absence := [], maxTime := 20 } St.fresh).logs.tState 1 = [.none, .working] ∧
    putLogs ssM (removeAbs ssM (simulate ssM { absence := [0], maxTime := 20 } St.fresh)).logs =
      putLogs ssM (simulate ssM { absence := [], maxTime := 20 } St.fresh).logs ∧
    (removeAbs ssM (simulate ssM { absence := [0], maxTime := 20 } St.fresh)).time =
      (simulate ssM { absence := [], maxTime := 20 } St.fresh).time ∧
    (removeAbs ssM (simulate ssM { absence := [0], maxTime := 20 } St.fresh)).status =
      (simulate ssM { absence := [], maxTime := 20 } St.fresh).status := by
  -- run A evaluated; run B by `SlackShift.removal_dag_run`, the form of `C10_removal_tslack_general`
  -- (Props/C10Slack) for a concrete pair of runs: under TSLACK the network is consistent and acyclic
  have hA : let A := simulate ssM { absence := [0], maxTime := 20 } St.fresh
      A.status = .success ∧ A.logs.tState 1 = [.none, .none, .working] ∧
      (removeAbs ssM A).logs.tState 1 = [.none, .working] := by
    simp only [Fast.simulate_fast]; decide +kernel
  obtain ⟨hl, ht, hs, hsB⟩ := SlackShift.removal_dag_run (pB := { maxTime := 20 }) hA.1 rfl
    ⟨⟨fun _ _ => rfl, fun _ _ => rfl⟩, fun _ _ ht => (nomatch ht), by decide +kernel, by decide,
      fun _ => ⟨by decide +kernel, id, by decide +kernel⟩⟩ rfl rfl
  exact ⟨hA.1, hsB, hA.2.1, hA.2.2, (congrArg (·.tState 1) hl).symm.trans hA.2.2,
    congrArg (putLogs ssM) hl, ht, hs⟩

theorem ssM_ok : ModelOK ssM .est where
  noInd := ⟨fun _ _ => rfl, fun _ _ => rfl⟩
  compNoAuto := fun _ _ ht => nomatch ht
  wf := by decide +kernel
  notFifo := by decide
  slack := fun h => nomatch h

theorem ssM_workOK : WorkOK ssM := by decide +kernel

/-- `C10_removal` applies to it (rule EST: the network is not finish-to-start, so TSLACK is
outside `SlackOK`) -/
example :
    (removeAbs ssM (simulate ssM { rule := .est, absence := [0], maxTime := 20 } St.fresh)).logs =
      (simulate ssM { rule := .est, absence := [], maxTime := 20 } St.fresh).logs :=
  (C10_removal ssM { rule := .est, maxTime := 20 } [0] St.fresh ssM_ok ssM_workOK
    rfl rfl rfl (by simp only [Fast.simulate_fast]; decide +kernel)).1

/-- task `0` automatic with work amount 0 (no component), task `1` ordinary after it
(finish-to-start); one worker -/
def zwM : Model where
  nT := 2
  nW := 1
  nF := 0
  nTeam := 1
  nWp := 0
  nC := 0
  task := fun t =>
    match t with
    | 0 => { name := 0, work := 0, isAuto := true, outputs := [(1, .fs)] }
    | _ => { name := 1, work := 1, inputs := [(0, .fs)] }
  worker := fun _ => { team := 0, skills := [(1, 1)] }
  fac := fun _ => {}
  team := fun _ => { workers := [0], targets := [0, 1] }
  wp := fun _ => {}
  comp := fun _ => {}

theorem zwM_ok (rule : TaskRule) (h : rule ≠ .fifo) : ModelOK zwM rule where
  noInd := ⟨fun _ _ => rfl, fun _ _ => rfl⟩
  compNoAuto := fun _ _ ht => nomatch ht
  wf := by decide +kernel
  notFifo := h
  slack := fun _ => ⟨by decide +kernel, by decide +kernel, id, by decide +kernel⟩

theorem zwM_workOK : WorkOK zwM := by decide +kernel

/-- run A of `zwM` with the absence list `[0, 2]`, evaluated once -/
theorem zwM_runA : let A := simulate zwM { absence := [0, 2], maxTime := 20 } St.fresh
    A.status = .success ∧ A.logs.tState 0 = [.ready, .working, .finished, .finished] ∧
    (removeAbs zwM A).logs.tState 0 = [.working, .finished] := by
  simp only [Fast.simulate_fast]; decide +kernel

/-- `C10_removal` for `zwM` in the spelling of the examples below -/
theorem zwM_removal :
    (removeAbs zwM (simulate zwM { absence := [0, 2], maxTime := 20 } St.fresh)).logs =
      (simulate zwM { absence := [], maxTime := 20 } St.fresh).logs ∧
    (removeAbs zwM (simulate zwM { absence := [0, 2], maxTime := 20 } St.fresh)).time =
      (simulate zwM { absence := [], maxTime := 20 } St.fresh).time ∧
    (removeAbs zwM (simulate zwM { absence := [0, 2], maxTime := 20 } St.fresh)).status =
      (simulate zwM { absence := [], maxTime := 20 } St.fresh).status :=
  have h := C10_removal zwM { maxTime := 20 } [0, 2] St.fresh (zwM_ok .tslack (by decide)) zwM_workOK
    rfl rfl rfl zwM_runA.1
  ⟨h.1, h.2.1, h.2.2.1⟩

/-- **A zero-work automatic task** (excluded before F29, finding F26: started at an absence step it
would have finished one working step early).  With the absence list `[0, 2]` the task waits in READY at the
absence step 0, is WORKING at step 1, FINISHED at the absence step 2; deleting the two rows gives
the run without absence (run A evaluated, run B by `C10_removal`). -/
example :
    (simulate zwM { absence := [0, 2], maxTime := 20 } St.fresh).status = .success ∧
    (simulate zwM { absence := [0, 2], maxTime := 20 } St.fresh).logs.tState 0 =
      [.ready, .working, .finished, .finished] ∧
    (simulate zwM { absence := [], maxTime := 20 } St.fresh).logs.tState 0 = [.working, .finished] ∧
    putLogs zwM (removeAbs zwM (simulate zwM { absence := [0, 2], maxTime := 20 } St.fresh)).logs =
      putLogs zwM (simulate zwM { absence := [], maxTime := 20 } St.fresh).logs ∧
    (removeAbs zwM (simulate zwM { absence := [0, 2], maxTime := 20 } St.fresh)).time =
      (simulate zwM { absence := [], maxTime := 20 } St.fresh).time ∧
    (removeAbs zwM (simulate zwM { absence := [0, 2], maxTime := 20 } St.fresh)).status =
      (simulate zwM { absence := [], maxTime := 20 } St.fresh).status := by
  have hA := zwM_runA
  obtain ⟨hl, ht, hs⟩ := zwM_removal
  exact ⟨hA.1, hA.2.1, (congrArg (·.tState 0) hl).symm.trans hA.2.2, congrArg (putLogs zwM) hl, ht, hs⟩

/-- `C10_removal` applies to it (default rule TSLACK) -/
example :
    (removeAbs zwM (simulate zwM { absence := [0, 2], maxTime := 20 } St.fresh)).logs =
      (simulate zwM { absence := [], maxTime := 20 } St.fresh).logs :=
  zwM_removal.1

end PDesy

#print axioms PDesy.C10_est_shift
#print axioms PDesy.C10_slack_shift
#print axioms PDesy.C10_taskLe_shift
#print axioms PDesy.C10_rows_kept
#print axioms PDesy.C10_rows_dropped
#print axioms PDesy.C10_working_step
#print axioms PDesy.C10_absence_step_current
#print axioms PDesy.C10_absStepOK
#print axioms PDesy.C10_removal_of_absence_step
#print axioms PDesy.C10_removal
