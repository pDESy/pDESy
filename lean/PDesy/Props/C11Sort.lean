/-
  PDesy.Props.C11Sort — property C11 (sorting half):
  "Priority rules order candidates as documented."

  Each of the four sorting functions of `base_priority_rule.py` (`sort_task_list`,
  `sort_worker_list`, `sort_facility_list`, `sort_workplace_list`; in the model `sortTasks`,
  `sortWorkers`, `sortFacs`, `sortWps`) returns, for EVERY rule mode and EVERY input list
  (ties and missing skill entries included),

    * a permutation of its input,
    * ordered by the documented key of the selected rule,
    * stably: candidates with equal keys keep their input order
      (Python's guarantee for `sorted(key=…)` and `sorted(key=…, reverse=True)`).

  These three facts are packaged as `Sort.StableSortedBy r key inp out` (fields `perm`, `sorted`,
  `stable`), and by `Sort.StableSortedBy.unique` they determine the output uniquely.

  "Accepts every rule for every resource kind": the sorting functions are total Lean functions
  on the rule enumerations, and each theorem below is quantified over *all* constructors of the
  rule type (the `match` in each statement lists every mode, including `ResRule.mw` for
  facilities, which `sort_facility_list` accepts and answers with the unchanged list).

  The theorems instantiate `stableSortedBy_sortBy` and `sortBy_spec` (Lemmas/Sort) with the order facts of
  each comparator (`taskLe_asc`/`taskLe_desc`, `workerLe_iff`, `facLe_iff`, `wpLe_iff`, `…_preorder`).
-/
import PDesy.Lemmas.Sort

namespace PDesy

open PDesy.Sort

/-- `out` is `inp` stably sorted by ascending rational `key` (`sorted(inp, key=key)`). -/
abbrev SortedAsc (key : Nat → Rat) (inp out : List Nat) : Prop :=
  StableSortedBy (fun x y : Rat => x ≤ y) key inp out

/-- `out` is `inp` stably sorted by descending rational `key`
(`sorted(inp, key=key, reverse=True)`). -/
abbrev SortedDesc (key : Nat → Rat) (inp out : List Nat) : Prop :=
  StableSortedBy (fun x y : Rat => y ≤ x) key inp out

/-- **C11, tasks.**  For every task rule, `sortTasks` returns a stable sort of the candidate
list by the documented key:

* TSLACK — ascending slack `lst − est`;
* EST — ascending earliest start time;
* SPT / LPT — ascending / descending default work amount;
* FIFO — descending number of READY entries in the task's state log (longest waiting first);
* LRPT / SRPT — descending / ascending remaining work amount;
* LWRPT / SWRPT — descending / ascending critical-path length of the (single) workflow.

"Stable sort" = permutation of the input, keys ordered along the output, and tasks with equal
keys in their input order.  The statement covers all nine constructors of `TaskRule`, i.e.
`sort_task_list` accepts every rule. -/
theorem C11_tasks (m : Model) (l : Live) (lg : Logs) (rule : TaskRule) (ts : List Nat) :
    match rule with
    | .tslack => SortedAsc  (fun t => l.lst t - l.est t) ts (sortTasks m l lg .tslack ts)
    | .est    => SortedAsc  (fun t => l.est t) ts (sortTasks m l lg .est ts)
    | .spt    => SortedAsc  (fun t => (m.task t).work) ts (sortTasks m l lg .spt ts)
    | .lpt    => SortedDesc (fun t => (m.task t).work) ts (sortTasks m l lg .lpt ts)
    | .fifo   => SortedDesc (fun t => (((lg.tState t).filter (· == TS.ready)).length : Rat)) ts
                   (sortTasks m l lg .fifo ts)
    | .lrpt   => SortedDesc (fun t => l.rem t) ts (sortTasks m l lg .lrpt ts)
    | .srpt   => SortedAsc  (fun t => l.rem t) ts (sortTasks m l lg .srpt ts)
    | .lwrpt  => SortedDesc (fun _ => l.cpl) ts (sortTasks m l lg .lwrpt ts)
    | .swrpt  => SortedAsc  (fun _ => l.cpl) ts (sortTasks m l lg .swrpt ts) := by
  cases rule
  -- `by exact`: elaborated once the goal has fixed the rule, so that `rfl` can evaluate `taskRuleDesc`
  case tslack | est | spt | srpt | swrpt =>
    exact stableSortedBy_sortBy ratLe_totalOrder (by exact taskLe_asc rfl) ts
  case lpt | fifo | lrpt | lwrpt =>
    exact stableSortedBy_sortBy ratGe_totalOrder (by exact taskLe_desc rfl) ts

/-- Rule-independent summary of `C11_tasks`: permutation, ordered by the comparator, stable —
and `sortTasks` is the only function with these three properties. -/
theorem C11_tasks_generic (m : Model) (l : Live) (lg : Logs) (rule : TaskRule) (ts : List Nat) :
    (sortTasks m l lg rule ts).Perm ts ∧
    (sortTasks m l lg rule ts).Pairwise (fun a b => taskLe m l lg rule a b = true) ∧
    (∀ a, (sortTasks m l lg rule ts).filter (fun b => taskLe m l lg rule a b && taskLe m l lg rule b a)
        = ts.filter (fun b => taskLe m l lg rule a b && taskLe m l lg rule b a)) ∧
    (∀ out : List Nat, out.Perm ts → out.Pairwise (fun a b => taskLe m l lg rule a b = true) →
      (∀ a, out.filter (fun b => taskLe m l lg rule a b && taskLe m l lg rule b a)
          = ts.filter (fun b => taskLe m l lg rule a b && taskLe m l lg rule b a)) →
      out = sortTasks m l lg rule ts) :=
  sortBy_spec (taskLe_preorder m l lg rule) ts

/-- **C11, workers.**  For every resource rule, `sortWorkers` returns a stable sort of the
worker list by the documented key *tuple*, compared lexicographically (`Sort.Lex3`: the first
differing component decides; `ExtRat` is `Rat` plus `+∞`, booleans are `0`/`1` via `boolKey`):

* MW  — (main workplace ≠ target, main workplace ≠ None, skill sum):
        workers whose main workplace *is* the target first, then workers without a main
        workplace, then by ascending skill sum;
* SSP — (skill sum, main workplace ≠ target, main workplace ≠ None);
* VC  — (cost per time, …, …);
* HSV — (`hsvKey` = minus the skill for the task name, `+∞` if the worker lacks the entry, …, …):
        highest skill first, workers without the skill entry last.

Workplace IDs are compared by value (`Option Nat` indices).  All four constructors of `ResRule`
are covered, i.e. `sort_worker_list` accepts every rule. -/
theorem C11_workers (m : Model) (rule : ResRule) (name : Nat) (target : Option Nat)
    (ws : List Nat) :
    match rule with
    | .mw  => StableSortedBy Lex3
        (fun w => (boolKey (decide ((m.worker w).mainWp ≠ target)),
                   boolKey (decide ((m.worker w).mainWp ≠ Option.none)),
                   ExtRat.fin (sumVals (m.worker w).skills)))
        ws (sortWorkers m .mw name target ws)
    | .ssp => StableSortedBy Lex3
        (fun w => (ExtRat.fin (sumVals (m.worker w).skills),
                   boolKey (decide ((m.worker w).mainWp ≠ target)),
                   boolKey (decide ((m.worker w).mainWp ≠ Option.none))))
        ws (sortWorkers m .ssp name target ws)
    | .vc  => StableSortedBy Lex3
        (fun w => (ExtRat.fin (m.worker w).cost,
                   boolKey (decide ((m.worker w).mainWp ≠ target)),
                   boolKey (decide ((m.worker w).mainWp ≠ Option.none))))
        ws (sortWorkers m .vc name target ws)
    | .hsv => StableSortedBy Lex3
        (fun w => (hsvKey (m.worker w).skills name,
                   boolKey (decide ((m.worker w).mainWp ≠ target)),
                   boolKey (decide ((m.worker w).mainWp ≠ Option.none))))
        ws (sortWorkers m .hsv name target ws) := by
  cases rule
  · exact stableSortedBy_sortBy lex3_totalOrder (workerLe_iff m .mw name target) ws
  · exact stableSortedBy_sortBy lex3_totalOrder (workerLe_iff m .ssp name target) ws
  · exact stableSortedBy_sortBy lex3_totalOrder (workerLe_iff m .vc name target) ws
  · exact stableSortedBy_sortBy lex3_totalOrder (workerLe_iff m .hsv name target) ws

/-- Reading of the HSV worker rule without `ExtRat`: if a later worker of the output has a
skill entry for `name`, every earlier worker has one too, with a value at least as high. -/
theorem C11_workers_hsv_desc (m : Model) (name : Nat) (target : Option Nat) (ws : List Nat) :
    (sortWorkers m .hsv name target ws).Pairwise (fun a b =>
      ∀ v, lookup (m.worker b).skills name = some v →
        ∃ u, lookup (m.worker a).skills name = some u ∧ v ≤ u) :=
  (C11_workers m .hsv name target ws).sorted.imp
    (fun h => (extLe_hsvKey_iff _ _ name).1 (Lex3.fst h))

/-- Rule-independent summary for workers (permutation / ordered / stable / unique). -/
theorem C11_workers_generic (m : Model) (rule : ResRule) (name : Nat) (target : Option Nat)
    (ws : List Nat) :
    let le := workerLe m rule name target
    (sortWorkers m rule name target ws).Perm ws ∧
    (sortWorkers m rule name target ws).Pairwise (fun a b => le a b = true) ∧
    (∀ a, (sortWorkers m rule name target ws).filter (fun b => le a b && le b a)
        = ws.filter (fun b => le a b && le b a)) ∧
    (∀ out : List Nat, out.Perm ws → out.Pairwise (fun a b => le a b = true) →
      (∀ a, out.filter (fun b => le a b && le b a) = ws.filter (fun b => le a b && le b a)) →
      out = sortWorkers m rule name target ws) :=
  sortBy_spec (workerLe_preorder m rule name target) ws

/-- **C11, facilities.**  For every resource rule, `sortFacs` does what `sort_facility_list`
documents:

* SSP — stable sort by ascending skill sum;
* VC  — stable sort by ascending cost per time;
* HSV — stable sort by descending skill for the task name, facilities without the entry (key
        `−∞` in Python, here `hsvKey = +∞` after negation) last;
* MW  — accepted, and the list is returned unchanged (no branch of `sort_facility_list` fires).

All four constructors of `ResRule` are covered: the function accepts every rule. -/
theorem C11_facilities (m : Model) (rule : ResRule) (name : Nat) (fs : List Nat) :
    match rule with
    | .ssp => SortedAsc (fun f => sumVals (m.fac f).skills) fs (sortFacs m .ssp name fs)
    | .vc  => SortedAsc (fun f => (m.fac f).cost) fs (sortFacs m .vc name fs)
    | .hsv => StableSortedBy ExtLe (fun f => hsvKey (m.fac f).skills name) fs
                (sortFacs m .hsv name fs)
    | .mw  => sortFacs m .mw name fs = fs := by
  cases rule
  · exact sortBy_true fs
  · exact stableSortedBy_sortBy ratLe_totalOrder (facLe_iff m .ssp name) fs
  · exact stableSortedBy_sortBy ratLe_totalOrder (facLe_iff m .vc name) fs
  · exact stableSortedBy_sortBy extLe_totalOrder (facLe_iff m .hsv name) fs

/-- Reading of the HSV facility rule without `ExtRat`: if a later facility of the output has a
skill entry for `name`, every earlier one has an entry too, with a value at least as high. -/
theorem C11_facilities_hsv_desc (m : Model) (name : Nat) (fs : List Nat) :
    (sortFacs m .hsv name fs).Pairwise (fun a b =>
      ∀ v, lookup (m.fac b).skills name = some v →
        ∃ u, lookup (m.fac a).skills name = some u ∧ v ≤ u) :=
  (C11_facilities m .hsv name fs).sorted.imp (fun h => (extLe_hsvKey_iff _ _ name).1 h)

/-- Rule-independent summary for facilities (permutation / ordered / stable / unique). -/
theorem C11_facilities_generic (m : Model) (rule : ResRule) (name : Nat) (fs : List Nat) :
    let le := facLe m rule name
    (sortFacs m rule name fs).Perm fs ∧
    (sortFacs m rule name fs).Pairwise (fun a b => le a b = true) ∧
    (∀ a, (sortFacs m rule name fs).filter (fun b => le a b && le b a)
        = fs.filter (fun b => le a b && le b a)) ∧
    (∀ out : List Nat, out.Perm fs → out.Pairwise (fun a b => le a b = true) →
      (∀ a, out.filter (fun b => le a b && le b a) = fs.filter (fun b => le a b && le b a)) →
      out = sortFacs m rule name fs) :=
  sortBy_spec (facLe_preorder m rule name) fs

/-- **C11, workplaces.**  For both workplace rules, `sortWps` returns a stable sort of the
workplace list by the documented key, largest first:

* FSS — descending free space `availSpace` (capacity minus the sizes of the placed components);
* SSP — descending `wpSkillSum` (sum of the skill values for the task name over the workplace's
        facilities that have that skill).

Both constructors of `WpRule` are covered: `sort_workplace_list` accepts every rule. -/
theorem C11_workplaces (m : Model) (l : Live) (rule : WpRule) (name : Nat) (ps : List Nat) :
    match rule with
    | .fss => SortedDesc (fun p => availSpace m l p) ps (sortWps m l .fss name ps)
    | .ssp => SortedDesc (fun p => wpSkillSum m p name) ps (sortWps m l .ssp name ps) := by
  cases rule
  · exact stableSortedBy_sortBy ratGe_totalOrder (wpLe_iff m l .fss name) ps
  · exact stableSortedBy_sortBy ratGe_totalOrder (wpLe_iff m l .ssp name) ps

/-- Rule-independent summary for workplaces (permutation / ordered / stable / unique). -/
theorem C11_workplaces_generic (m : Model) (l : Live) (rule : WpRule) (name : Nat)
    (ps : List Nat) :
    let le := wpLe m l rule name
    (sortWps m l rule name ps).Perm ps ∧
    (sortWps m l rule name ps).Pairwise (fun a b => le a b = true) ∧
    (∀ a, (sortWps m l rule name ps).filter (fun b => le a b && le b a)
        = ps.filter (fun b => le a b && le b a)) ∧
    (∀ out : List Nat, out.Perm ps → out.Pairwise (fun a b => le a b = true) →
      (∀ a, out.filter (fun b => le a b && le b a) = ps.filter (fun b => le a b && le b a)) →
      out = sortWps m l rule name ps) :=
  sortBy_spec (wpLe_preorder m l rule name) ps

/-! Test vectors: small concrete lists with ties and missing keys. -/

namespace C11Example

/-- 4 tasks with work 3,1,3,2; 4 workers / facilities with skills for task name 7:
0 ↦ 2, 1 ↦ (no entry), 2 ↦ 5, 3 ↦ 2; costs 4,1,4,1; main workplaces some 0, none, some 1, some 0;
workplaces 0, 1, 2 hold the facilities 0 and 1, 2, 3, workplace 3 none; capacities 2,3,2,3. -/
def m : Model where
  nT := 4
  nW := 4
  nF := 4
  nTeam := 1
  nWp := 4
  nC := 2
  task := fun t => { work := if t = 0 then 3 else if t = 1 then 1 else if t = 2 then 3 else 2 }
  worker := fun w =>
    { skills := if w = 0 then [(7, 2)] else if w = 1 then [(8, 9)] else if w = 2 then [(7, 5)]
                else [(7, 2)]
      cost := if w = 0 then 4 else if w = 1 then 1 else if w = 2 then 4 else 1
      mainWp := if w = 0 then some 0 else if w = 1 then Option.none else if w = 2 then some 1
                else some 0 }
  fac := fun f =>
    { skills := if f = 0 then [(7, 2)] else if f = 1 then [(8, 9)] else if f = 2 then [(7, 5)]
                else [(7, 2)]
      cost := if f = 0 then 4 else if f = 1 then 1 else if f = 2 then 4 else 1 }
  team := fun _ => {}
  wp := fun p =>
    { facs := if p = 0 then [0, 1] else if p = 1 then [2] else if p = 2 then [3] else []
      cap := if p = 0 then 2 else if p = 1 then 3 else if p = 2 then 2 else 3 }
  comp := fun _ => {}

/-- est 0,2,0,2; lst 1,2,4,3 (slack 1,0,4,1); remaining 1,1,0,1; component 0 placed in
workplace 1. -/
def l : Live :=
  { Live.empty with
    est := fun t => if t = 0 then 0 else if t = 1 then 2 else if t = 2 then 0 else 2
    lst := fun t => if t = 0 then 1 else if t = 1 then 2 else if t = 2 then 4 else 3
    rem := fun t => if t = 2 then 0 else 1
    cpl := 5
    wpComps := fun p => if p = 1 then [0] else [] }

/-- READY counts 1,2,0,2. -/
def lg : Logs :=
  { Logs.empty with
    tState := fun t => if t = 0 then [.none, .ready, .working]
                       else if t = 1 then [.ready, .ready]
                       else if t = 2 then [.none, .none] else [.ready, .none, .ready] }

theorem lpt_sorted : sortTasks m l lg .lpt [0, 1, 2, 3] = [0, 2, 3, 1] := by decide +kernel

-- tasks: ties keep input order, ascending and descending
example : sortTasks m l lg .tslack [0, 1, 2, 3] = [1, 0, 3, 2] := by decide +kernel
example : sortTasks m l lg .est [0, 1, 2, 3] = [0, 2, 1, 3] := by decide +kernel
example : sortTasks m l lg .spt [0, 1, 2, 3] = [1, 3, 0, 2] := by decide +kernel
example : sortTasks m l lg .lpt [0, 1, 2, 3] = [0, 2, 3, 1] := lpt_sorted
example : sortTasks m l lg .lpt [2, 1, 0, 3] = [2, 0, 3, 1] := by decide +kernel
example : sortTasks m l lg .fifo [0, 1, 2, 3] = [1, 3, 0, 2] := by decide +kernel
example : sortTasks m l lg .lrpt [0, 1, 2, 3] = [0, 1, 3, 2] := by decide +kernel
example : sortTasks m l lg .srpt [0, 1, 2, 3] = [2, 0, 1, 3] := by decide +kernel
example : sortTasks m l lg .lwrpt [3, 1, 2, 0] = [3, 1, 2, 0] := by decide +kernel
example : sortTasks m l lg .swrpt [3, 1, 2, 0] = [3, 1, 2, 0] := by decide +kernel

-- workers: main workplace = target first, then no main workplace, then by skill sum
example : sortWorkers m .mw 7 (some 0) [0, 1, 2, 3] = [0, 3, 1, 2] := by decide +kernel
example : sortWorkers m .ssp 7 (some 0) [0, 1, 2, 3] = [0, 3, 2, 1] := by decide +kernel
example : sortWorkers m .vc 7 (some 0) [0, 1, 2, 3] = [3, 1, 0, 2] := by decide +kernel
-- highest skill first, the worker without an entry for task name 7 last, ties (0,3) broken by
-- the main-workplace flags, then stably
example : sortWorkers m .hsv 7 (some 1) [0, 1, 2, 3] = [2, 0, 3, 1] := by decide +kernel
example : sortWorkers m .hsv 7 (some 1) [3, 1, 2, 0] = [2, 3, 0, 1] := by decide +kernel

example : sortFacs m .ssp 7 [2, 0, 1, 3] = [0, 3, 2, 1] := by decide +kernel
example : sortFacs m .vc 7 [0, 1, 2, 3] = [1, 3, 0, 2] := by decide +kernel
example : sortFacs m .hsv 7 [0, 1, 2, 3] = [2, 0, 3, 1] := by decide +kernel
example : sortFacs m .hsv 7 [3, 1, 2, 0] = [2, 3, 0, 1] := by decide +kernel
example : sortFacs m .mw 7 [3, 1, 2, 0] = [3, 1, 2, 0] := by decide +kernel

-- workplaces: free space 2,2,2,3 (workplace 1 holds a component of size 1); skill sums 2,5,2,0
example : sortWps m l .fss 7 [0, 1, 2, 3] = [3, 0, 1, 2] := by decide +kernel
example : sortWps m l .ssp 7 [0, 1, 2, 3] = [1, 0, 2, 3] := by decide +kernel
example : sortWps m l .ssp 7 [3, 2, 1, 0] = [1, 2, 0, 3] := by decide +kernel

-- the packaged property on a concrete instance (the statement is not vacuous)
example : SortedDesc (fun t => (m.task t).work) [0, 1, 2, 3] [0, 2, 3, 1] :=
  lpt_sorted ▸ C11_tasks m l lg .lpt [0, 1, 2, 3]

end C11Example

end PDesy

#print axioms PDesy.C11_tasks
#print axioms PDesy.C11_tasks_generic
#print axioms PDesy.C11_workers
#print axioms PDesy.C11_workers_hsv_desc
#print axioms PDesy.C11_workers_generic
#print axioms PDesy.C11_facilities
#print axioms PDesy.C11_facilities_hsv_desc
#print axioms PDesy.C11_facilities_generic
#print axioms PDesy.C11_workplaces
#print axioms PDesy.C11_workplaces_generic
#print axioms PDesy.Sort.sortBy_perm
#print axioms PDesy.Sort.sortBy_pairwise
#print axioms PDesy.Sort.sortBy_filter_equiv
#print axioms PDesy.Sort.eq_sortBy_of_perm_pairwise_stable
#print axioms PDesy.Sort.StableSortedBy.unique
#print axioms PDesy.Sort.sortBy_true
