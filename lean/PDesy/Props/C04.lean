/-
  PDesy.Props.C04 — "Only eligible resources are ever allocated to a task."

  The invariant is `Elig.EligInv` (Lemmas/Elig): for every task `t < m.nT`, of the workers `ws` and
  the facilities `fs` it holds, (a) every worker is eligible (`WorkerElig`: positive skill for `t`,
  team assigned to `t`, among the fixed worker IDs if `t` fixes any); (b) a solo worker / solo
  facility is the only one in its list; (c) if `t` needs a facility, `ws` and `fs` have the same
  length and are position by position eligible pairs (`PairElig`: worker and facility eligible,
  and the worker can operate the facility); (d) if `t` needs no facility, `fs = []`; (e) an
  automatic task holds nothing.  No well-formedness assumption on the model is needed anywhere in
  this file.  The theorems instantiate `EligInv_allocate`, `EligInv_stepBody`, `EligInv_loopInv`,
  `EligInv_enter` (Lemmas/Elig) and `allocate_afterPass` (Lemmas/AllocLoop).
-/
import PDesy.Lemmas.Elig
import PDesy.Lemmas.Alloc

namespace PDesy
open Lifecycle Elig

/-- **C04 (what the invariant says).** In a live state that satisfies `EligInv`, for a task
`t < m.nT`: every held worker is eligible; a solo worker or solo facility is alone on the task;
a task that needs a facility holds as many workers as facilities and the `i`-th worker with the
`i`-th facility is an eligible pair (in particular the facility is eligible and the worker can
operate it); a task that needs no facility holds no facility; an automatic task holds nothing. -/
theorem C04_meaning (m : Model) (l : Live) (h : EligInv m l) (t : Nat) (ht : t < m.nT) :
    (∀ w ∈ l.allocW t, WorkerElig m t w) ∧
    ((∃ w ∈ l.allocW t, (m.worker w).solo = true) → (l.allocW t).length = 1) ∧
    ((∃ f ∈ l.allocF t, (m.fac f).solo = true) → (l.allocF t).length = 1) ∧
    ((m.task t).needFac = true →
      (l.allocW t).length = (l.allocF t).length ∧
      (∀ wf ∈ (l.allocW t).zip (l.allocF t), PairElig m t wf.1 wf.2) ∧
      (∀ f ∈ l.allocF t, FacElig m t f)) ∧
    ((m.task t).needFac = false → l.allocF t = []) ∧
    ((m.task t).isAuto = true → l.allocW t = [] ∧ l.allocF t = []) := by
  have hat := h t ht
  exact ⟨hat.worker, hat.soloW, hat.soloF,
    fun hn => ⟨(hat.pairs hn).1, (hat.pairs hn).2, hat.fac hn⟩, hat.noFac, hat.auto⟩

/-- the example state (task 0 WORKING with the solo worker 0 paired with facility 0) satisfies
the invariant … -/
example : EligInv exF exFSt.live := exFSt_inv

/-- … and the invariant is not vacuous: a second worker beside the solo worker, or worker 1
(who has no skill for task 0), are rejected -/
example : ¬ EligInv exF { exFLive with allocW := fun t => if t = 0 then [0, 1] else [],
                                         allocF := fun t => if t = 0 then [0, 0] else [] } := by
  decide +kernel

example : ¬ EligInv exF { exFLive with allocW := fun t => if t = 0 then [1] else [] } := by
  decide +kernel

/-- **C04 (phase level).** Every phase of the simulation preserves `EligInv`: `allocate` (the
only phase that adds resources — each one passed `can_add_resources` on the lists as they were
at that moment), `check_state(FINISHED)` (which only empties the lists of the tasks it
finishes), and the phases that do not touch the allocation lists at all. -/
theorem C04_phases (m : Model) (l : Live) (h : EligInv m l) :
    (∀ lg rule, EligInv m (allocate m lg rule l)) ∧
    EligInv m (chkFinished m l) ∧
    EligInv m (compCheck m l) ∧ EligInv m (chkRemove m l) ∧ EligInv m (chkReady m l) ∧
    (∀ time, EligInv m (pert m time l)) ∧
    (∀ time working, EligInv m (absenceSet m time working l)) ∧
    EligInv m (chkWorking m l) ∧
    (∀ working autoFlag, EligInv m (perform m working autoFlag l)) :=
  ⟨fun lg rule => EligInv_allocate m lg rule l h,
   EligInv_chkFinished m l h,
   by rw [compCheck_eq]; exact h.congr rfl rfl, by rw [chkRemove_frame]; exact h.congr rfl rfl,
   by rw [chkReady_eq]; exact h.congr rfl rfl,
   fun time => by rw [pert_frame]; exact h.congr rfl rfl,
   fun time w => EligInv_absenceSet h,
   by rw [chkWorking_frame]; exact h.congr rfl rfl,
   fun w a => by rw [perform_eq]; exact h.congr rfl rfl⟩

example : EligInv exF exFSt.live := exFSt_inv

/-- **C04 (who can be added, workers).** A worker that a task holds after `allocate` was already
held by that task before, or is a worker of the organisation (`w < m.nW`) whose state was FREE
when the pass began. -/
theorem C04_added (m : Model) (lg : Logs) (rule : TaskRule) (l : Live) (t w : Nat)
    (h : w ∈ (allocate m lg rule l).allocW t) :
    w ∈ l.allocW t ∨ (w < m.nW ∧ l.wstate w = .free) :=
  ((allocate_afterPass m lg rule l).srcW t w h).imp id fun h' => h'.2

/-- **C04 (who can be added, facilities).** A facility that a task holds after `allocate` was
already held by that task before, or it was FREE and assigned to no task when the pass began, it
stands in some workplace, and the task has a target component. -/
theorem C04_added_fac (m : Model) (lg : Logs) (rule : TaskRule) (l : Live) (t f : Nat)
    (h : f ∈ (allocate m lg rule l).allocF t) :
    f ∈ l.allocF t ∨
      (l.fstate f = .free ∧ l.fasg f = [] ∧
        ∃ c p, (m.task t).comp = some c ∧ f ∈ (m.wp p).facs) :=
  ((allocate_afterPass m lg rule l).srcF t f h).imp id fun ⟨_, h1, h2, _, h3⟩ => ⟨h1, h2, h3⟩

/-- **C04 (one call of the pairing step).** What `allocPairs` (step 3-2 for a task that needs a
facility) guarantees precisely about a facility it adds to task `t`: it stands in the workplace
`p` where the task's component `c` is placed at that moment, it is FREE and assigned to no
task. -/
theorem C04_added_fac_step (m : Model) (t : Nat) (a : Alloc) (f : Nat)
    (h : f ∈ (allocPairs m t a).l.allocF t) :
    f ∈ a.l.allocF t ∨
      ∃ c p, (m.task t).comp = some c ∧ a.l.placed c = some p ∧ f ∈ (m.wp p).facs ∧
        a.l.fstate f = .free ∧ a.l.fasg f = [] :=
  allocPairs_srcF a h

/-- **C04 (nothing is taken away or reordered).** What a task held before `allocate` is a
prefix of what it holds afterwards, for workers and for facilities. -/
theorem C04_prefix (m : Model) (lg : Logs) (rule : TaskRule) (l : Live) (t : Nat) :
    l.allocW t <+: (allocate m lg rule l).allocW t ∧
    l.allocF t <+: (allocate m lg rule l).allocF t :=
  ⟨(allocate_afterPass m lg rule l).prefixW t, (allocate_afterPass m lg rule l).prefixF t⟩

/-- **C04 (not absent, holding nothing).** If resource states are determined by absence and
assignment (`ResInv`, which holds right after the absence phase of a working step), a worker
newly added by `allocate` is not absent at that time and was assigned to no task; a newly added
facility of the organisation (`f < m.nF`) is not absent either. -/
theorem C04_added_present (m : Model) (lg : Logs) (rule : TaskRule) (l : Live) (time : Nat)
    (hR : ResInv m time true l) (t : Nat) :
    (∀ w ∈ (allocate m lg rule l).allocW t, w ∉ l.allocW t →
      w < m.nW ∧ (m.worker w).absence.contains time = false ∧ l.wasg w = []) ∧
    (∀ f ∈ (allocate m lg rule l).allocF t, f ∉ l.allocF t → f < m.nF →
      (m.fac f).absence.contains time = false ∧ l.fasg f = []) := by
  constructor
  · intro w hw hold
    obtain ⟨hlt, hfree⟩ := (C04_added m lg rule l t w hw).resolve_left hold
    obtain ⟨hn, ha⟩ := (hR.iff_on.1 w hlt).2.2.mp hfree
    exact ⟨hlt, ha, hn⟩
  · intro f hf hold hlt
    obtain ⟨hfree, hasg, _⟩ := (C04_added_fac m lg rule l t f hf).resolve_left hold
    exact ⟨((hR.iff_on.2 f hlt).2.2.mp hfree).2, hasg⟩

/-- the hypothesis of `C04_added_present` holds right after the absence phase of a working step -/
example (m : Model) (time : Nat) (l : Live) : ResInv m time true (absenceSet m time true l) :=
  ResInv_absenceSet m time true l

/-- **C04 (the moment of allocation, inside a loop step).** In a working step started from a
state that satisfies the invariant, a worker that task `t` holds at the end of the step but did
not hold at its beginning is eligible for `t`, is a worker of the organisation, is not absent at
the time of the step, and was assigned to no task; and what the task held before is a prefix of
what it holds now. -/
theorem C04_moment (m : Model) (p : Params) (s : St) (hwork : p.absence.contains s.time = false)
    (hI : EligInv m s.live) (t : Nat) (ht : t < m.nT) (w : Nat)
    (hnew : w ∈ (stepBody m p s).live.allocW t) (hold : w ∉ s.live.allocW t) :
    WorkerElig m t w ∧ w < m.nW ∧ (m.worker w).absence.contains s.time = false ∧
    s.live.wasg w = [] ∧ s.live.allocW t <+: (stepBody m p s).live.allocW t := by
  have hel := (EligInv_stepBody m p s hI t ht).worker w hnew
  -- what the task holds after the step is what it holds after the allocation pass
  rw [stepBody_allocW, preWorking_on m p s hwork] at hnew ⊢
  obtain ⟨h1, h2, h3⟩ := (C04_added_present m s.logs p.rule _ s.time
    (ResInv_absenceSet m s.time true s.live) t).1 w hnew hold
  exact ⟨hel, h1, h2, h3, (C04_prefix m s.logs p.rule (absenceSet m s.time true s.live) t).1⟩

example : ({} : Params).absence.contains exFSt.time = false ∧ EligInv exF exFSt.live :=
  ⟨rfl, exFSt_inv⟩

/-- **C04 (absence steps).** On a step whose time is in the project's absence list nothing is
allocated: every task holds at the end exactly what it held at the beginning. -/
theorem C04_absence_step (m : Model) (p : Params) (s : St)
    (habs : p.absence.contains s.time = true) :
    (stepBody m p s).live.allocW = s.live.allocW ∧ (stepBody m p s).live.allocF = s.live.allocF :=
  have h := stepBody_lists_off m p s habs
  ⟨h.1, h.2.1⟩

example : ({ absence := [0] } : Params).absence.contains exFSt.time = true := by decide +kernel

/-- **C04 (start of a run).** After `initialize(state_info=True, …)` — the state a forward
`simulate` with `initState = true` enters its loop from — no task holds anything, so the
invariant holds. -/
theorem C04_init (m : Model) (p : Params) (s : St) (h : p.initState = true) :
    EligInv m (enter m p s).live :=
  EligInv_enter m h s

example : ({ absence := [1] } : Params).initState = true := rfl

/-- **C04 (every recorded step).** If the invariant holds in the state the loop starts from, it
holds at the end of every executed step. -/
theorem C04_trace (m : Model) (p : Params) (s : St) (h : EligInv m s.live) :
    ∀ fuel, ∀ s' ∈ trace m p fuel s, EligInv m s'.live :=
  (EligInv_loopInv m p).trace h

example : EligInv exF exFSt.live := exFSt_inv

/-- **C04 (after every `__update`).** The same at the `updated` boundary of every iteration,
including the one at which the loop exits. -/
theorem C04_updTrace (m : Model) (p : Params) (s : St) (h : EligInv m s.live) :
    ∀ fuel, ∀ s' ∈ updTrace m p fuel s, EligInv m s'.live :=
  (EligInv_loopInv m p).updTrace h

example : EligInv exF exFSt.live := exFSt_inv

/-- the final state of the loop -/
theorem C04_loop (m : Model) (p : Params) (s : St) (h : EligInv m s.live) (fuel : Nat) :
    EligInv m (loop m p fuel s).live :=
  (EligInv_loopInv m p).loop h fuel

/-- **C04 (whole forward run, recorded steps).** In `simulate m p s` with `initState = true`
the invariant holds at the end of every executed step, whatever state `s` the project was in
before. -/
theorem C04_run (m : Model) (p : Params) (s : St) (h : p.initState = true) :
    ∀ s' ∈ runTrace m p s, EligInv m s'.live :=
  ((EligInv_loopInv m p).run (C04_init m p s h)).1

example : ({ absence := [1] } : Params).initState = true := rfl

/-- **C04 (whole forward run, after every `__update`).** -/
theorem C04_runUpd (m : Model) (p : Params) (s : St) (h : p.initState = true) :
    ∀ s' ∈ runUpdTrace m p s, EligInv m s'.live :=
  ((EligInv_loopInv m p).run (C04_init m p s h)).2.1

/-- **C04 (final state).** The state `simulate` returns satisfies the invariant. -/
theorem C04_final (m : Model) (p : Params) (s : St) (h : p.initState = true) :
    EligInv m (simulate m p s).live :=
  ((EligInv_loopInv m p).run (C04_init m p s h)).2.2

/-- the run of the example model really allocates: at some recorded step task 0 holds the pair
(worker 0, facility 0), at some step task 1 holds worker 1 (the fixed one), and the run ends
successfully — so the theorems above talk about real, non-empty allocations -/
example : (simulate exF {} St.fresh).status = .success ∧
    (∃ s' ∈ runTrace exF {} St.fresh, s'.live.allocW 0 = [0] ∧ s'.live.allocF 0 = [0]) ∧
    (∃ s' ∈ runTrace exF {} St.fresh, s'.live.allocW 1 = [1]) :=
  exF_run

end PDesy

#print axioms PDesy.C04_meaning
#print axioms PDesy.C04_phases
#print axioms PDesy.C04_added
#print axioms PDesy.C04_added_fac
#print axioms PDesy.C04_added_fac_step
#print axioms PDesy.C04_prefix
#print axioms PDesy.C04_added_present
#print axioms PDesy.C04_moment
#print axioms PDesy.C04_absence_step
#print axioms PDesy.C04_init
#print axioms PDesy.C04_trace
#print axioms PDesy.C04_updTrace
#print axioms PDesy.C04_loop
#print axioms PDesy.C04_run
#print axioms PDesy.C04_runUpd
#print axioms PDesy.C04_final
