/-
  PDesy.Props.C14 — "A component's state is determined by the states of its tasks."

  `CompInv m l` (Lemmas/Defs): for every component `c < m.nC`
    * `l.cstate c = FINISHED` exactly when all tasks of `c` are FINISHED (vacuously so for a
      component without tasks);
    * if some task of `c` is WORKING then `c` is WORKING;
    * if some task of `c` is READY or WORKING then `c` is not NONE.
  `CompInv` is inductive at the `updated` and `ticked` boundaries on its own: between two
  `product.check_state` the task states only move forward (`Mono`) and the component states stay,
  and from the invariant before that `compCheck` re-establishes the whole — of it, it reads only
  the "FINISHED ⇒ all tasks FINISHED" half (`CompInv_compCheck_of_weak`).  No well-formedness
  assumption on the model is needed.  `CompForward m a b` (Lemmas/Lifecycle) compares the component
  states of two states of a run: FINISHED in `a` stays FINISHED in `b`, non-NONE stays non-NONE.
  The theorems instantiate `CompInv_compCheck`, `CompInv_enter`, `CompInv_loopInv` and
  `CompForward_updated`, `CompForward_stepBody` (Lemmas/Lifecycle).
-/
import PDesy.Lemmas.Lifecycle

namespace PDesy
open Lifecycle

namespace C14Ex

/-- component 0 (tasks FINISHED, WORKING, READY) is WORKING; the empty component 1 is FINISHED -/
theorem exSt_comp : CompInv exM exSt.live := by
  unfold CompInv
  decide +kernel

/-- the invariant rejects a wrong state: component 0 NONE while one of its tasks is WORKING -/
example : ¬ CompInv exM { exSt.live with cstate := fun _ => .none } := by
  unfold CompInv
  decide +kernel

end C14Ex

/-- **C14 (`check_state` re-establishes the invariant).** If the invariant held in `l0` and
`l` differs from `l0` only by task states that moved forward (component states untouched),
then after `product.check_state` the invariant holds again. -/
theorem C14_compCheck (m : Model) (l0 l : Live) (h : CompInv m l0)
    (hm : Mono l0.tstate l.tstate) (hc : l.cstate = l0.cstate) : CompInv m (compCheck m l) :=
  CompInv_compCheck m h hm hc

example : CompInv exM exSt.live ∧
    Mono exSt.live.tstate (chkWorking exM exSt.live).tstate ∧
    (chkWorking exM exSt.live).cstate = exSt.live.cstate :=
  ⟨C14Ex.exSt_comp, chkWorking_mono _ _, chkWorking_cstate _ _⟩

/-- **C14 (component initialisation).** `product.initialize` followed by `check_state`
establishes the invariant whatever the state before. -/
theorem C14_initComps (m : Model) (l : Live) : CompInv m (initComps m l) :=
  CompInv_initComps m l

/-- **C14 (frame).** The phases between a `product.check_state` and the next change of task
states touch neither task nor component states (`cost` and `record` return logs only, so they
cannot); `check_state(FINISHED / READY / WORKING)` do not touch component states. -/
theorem C14_frame (m : Model) (l : Live) (time : Nat) (w a : Bool) (lg : Logs) (rule : TaskRule) :
    ((chkRemove m l).tstate = l.tstate ∧ (chkRemove m l).cstate = l.cstate) ∧
    ((pert m time l).tstate = l.tstate ∧ (pert m time l).cstate = l.cstate) ∧
    ((absenceSet m time w l).tstate = l.tstate ∧ (absenceSet m time w l).cstate = l.cstate) ∧
    ((allocate m lg rule l).tstate = l.tstate ∧ (allocate m lg rule l).cstate = l.cstate) ∧
    ((perform m w a l).tstate = l.tstate ∧ (perform m w a l).cstate = l.cstate) ∧
    (chkFinished m l).cstate = l.cstate ∧ (chkReady m l).cstate = l.cstate ∧
    (chkWorking m l).cstate = l.cstate ∧ (compCheck m l).tstate = l.tstate :=
  ⟨⟨chkRemove_tstate m l, chkRemove_cstate m l⟩, ⟨pert_tstate m time l, pert_cstate m time l⟩,
   ⟨absenceSet_tstate m time w l, absenceSet_cstate m time w l⟩,
   ⟨allocate_tstate m lg rule l, allocate_cstate m lg rule l⟩,
   ⟨perform_tstate m w a l, perform_cstate m w a l⟩,
   chkFinished_cstate m l, chkReady_cstate m l, chkWorking_cstate m l, compCheck_tstate m l⟩

/-- **C14 (start of a run).** The state a forward `simulate` with `initState = true` enters
its loop from satisfies the invariant. -/
theorem C14_init (m : Model) (p : Params) (s : St) (h : p.initState = true) :
    CompInv m (enter m p s).live :=
  CompInv_enter m h s

example : ({ absence := [1] } : Params).initState = true := rfl

/-- **C14 (every recorded step).** If the invariant holds in the state the loop starts from,
then at the end of every executed step every component is FINISHED exactly when all its tasks
are, WORKING when one of its tasks is, and not NONE when one of its tasks is READY or WORKING. -/
theorem C14_trace (m : Model) (p : Params) (s : St) (h : CompInv m s.live) :
    ∀ fuel, ∀ s' ∈ trace m p fuel s, CompInv m s'.live :=
  (CompInv_loopInv m p).trace h

example : CompInv exM exSt.live := C14Ex.exSt_comp

/-- **C14 (after every `__update`).** The same at the `updated` boundary of every iteration. -/
theorem C14_updTrace (m : Model) (p : Params) (s : St) (h : CompInv m s.live) :
    ∀ fuel, ∀ s' ∈ updTrace m p fuel s, CompInv m s'.live :=
  (CompInv_loopInv m p).updTrace h

example : CompInv exM exSt.live := C14Ex.exSt_comp

/-- the final state of the loop -/
theorem C14_loop (m : Model) (p : Params) (s : St) (h : CompInv m s.live) (fuel : Nat) :
    CompInv m (loop m p fuel s).live :=
  (CompInv_loopInv m p).loop h fuel

/-- **C14 (whole forward run).** In `simulate m p s` with `initState = true` the invariant
holds at the end of every executed step and after every `__update`. -/
theorem C14_run (m : Model) (p : Params) (s : St) (h : p.initState = true) :
    (∀ s' ∈ runTrace m p s, CompInv m s'.live) ∧ (∀ s' ∈ runUpdTrace m p s, CompInv m s'.live) :=
  have hr := (CompInv_loopInv m p).run (C14_init m p s h)
  ⟨hr.1, hr.2.1⟩

example : ({ absence := [1] } : Params).initState = true := rfl

/-- **C14 (final state).** The state `simulate` returns satisfies the invariant. -/
theorem C14_final (m : Model) (p : Params) (s : St) (h : p.initState = true) :
    CompInv m (simulate m p s).live :=
  ((CompInv_loopInv m p).run (C14_init m p s h)).2.2

example : ({ absence := [1] } : Params).initState = true := rfl

/-- the run of the example model has recorded steps, and ends with both components FINISHED -/
example : (runTrace exM {} St.fresh).length = 4 ∧
    (simulate exM {} St.fresh).live.cstate 0 = .finished ∧
    (simulate exM {} St.fresh).live.cstate 1 = .finished :=
  exM_run.2

/-- **C14 (absorbing).**  Given the invariant in the start state, between the start state and
any recorded step, and between any earlier and any later recorded step, a component that was
FINISHED is still FINISHED and a component that was not NONE is still not NONE. -/
theorem C14_absorbing (m : Model) (p : Params) (fuel : Nat) (s : St) (h : CompInv m s.live) :
    List.Pairwise (CompForward m) (s :: trace m p fuel s) :=
  (CompInv_loopInv m p).trace_pairwise (CompForward m) (fun _ _ _ => CompForward.trans)
    (CompForward_updated m) (fun s hs _ => CompForward_stepBody m p s hs) h fuel

example : CompInv exM exSt.live := C14Ex.exSt_comp

/-- **C14 (absorbing, whole run).** In `simulate m p s` with `initState = true`: pairwise along
the entered state followed by the recorded steps, and from the entered state to the returned
state. -/
theorem C14_absorbing_run (m : Model) (p : Params) (s : St) (h : p.initState = true) :
    List.Pairwise (CompForward m) (enter m p s :: runTrace m p s) ∧
    CompForward m (enter m p s) (simulate m p s) := by
  refine ⟨C14_absorbing m p _ _ (C14_init m p s h), ?_⟩
  rw [simulate_eq]
  exact (CompInv_loopInv m p).loop_rel (CompForward m) (CompForward.refl m)
    (fun _ _ _ => CompForward.trans) (CompForward_updated m)
    (fun s hs _ => CompForward_stepBody m p s hs) (fun s _ => CompForward.refl m s)
    (C14_init m p s h) _

example : ({ absence := [1] } : Params).initState = true := rfl

end PDesy

#print axioms PDesy.C14Ex.exSt_comp
#print axioms PDesy.C14_compCheck
#print axioms PDesy.C14_initComps
#print axioms PDesy.C14_frame
#print axioms PDesy.C14_init
#print axioms PDesy.C14_trace
#print axioms PDesy.C14_updTrace
#print axioms PDesy.C14_loop
#print axioms PDesy.C14_run
#print axioms PDesy.C14_final
#print axioms PDesy.C14_absorbing
#print axioms PDesy.C14_absorbing_run
