/-
  PDesy.Props.C12 — PERT/CPM values equal an independent critical-path computation at every
  update (`BaseWorkflow.update_PERT_data`, model: `pert`).

  The independent computation is given by its defining equations `PertSpec.PertEqs`
  (Lemmas/PertSpec.lean).  On an acyclic network they have exactly one solution (`C12_unique`), so
  "the output satisfies the equations" is "the output equals the critical-path computation".

  The theorems instantiate `PertSpec.pertOrd_AEqs` (Lemmas/Pert) and `PertEqs.unique`, `est_le_lst`,
  `crit_tail`, `crit_to` (Lemmas/PertSpec).
-/
import PDesy.Lemmas.Pert
import PDesy.Lemmas.Idem

namespace PDesy
open PDesy.PertSpec

/-- **C12.**  For every finish-to-start network (`FSOnly`) whose input/output lists are
consistent (`GraphOK`) and acyclic (`Acyclic`), with at least one task and non-negative remaining
work, and for ANY live state `l` (arbitrary stale `est/eft/lst/lft/cpl`), the values stored by
the PERT update at time `time` satisfy the PERT/CPM equations: `est` = max of `time` and the
predecessors' `est + rem`; `eft = est + rem`; `cpl` = largest `eft` among the tasks without
successors; `lft` = smallest `lst` among the successors (`cpl` if none); `lst = lft − rem`. -/
theorem C12 (m : Model) (time : Nat) (l : Live) (hfs : FSOnly m) (hok : GraphOK m)
    (hac : Acyclic m) (hn : 0 < m.nT) (hrem : ∀ t, t < m.nT → 0 ≤ l.rem t) :
    let r := pert m time l
    PertEqs m (time : Rat) l r.est r.eft r.lst r.lft r.cpl := by
  rw [← Order.pertOrd_canon]
  exact pertEqs_iff.2 (pertOrd_AEqs (Order.ordOK_canon _) hfs hok hac hn time l hrem)

/-- **Uniqueness of the specification.**  On a consistent acyclic network two solutions of the
PERT/CPM equations (same time, same remaining work) agree on `cpl` and on every task. -/
theorem C12_unique (m : Model) (time : Rat) (l : Live) (hok : GraphOK m) (hac : Acyclic m)
    {est eft lst lft est' eft' lst' lft' : Nat → Rat} {cpl cpl' : Rat}
    (h : PertEqs m time l est eft lst lft cpl) (h' : PertEqs m time l est' eft' lst' lft' cpl') :
    cpl = cpl' ∧ ∀ t, t < m.nT →
      est t = est' t ∧ eft t = eft' t ∧ lst t = lst' t ∧ lft t = lft' t :=
  h.unique hok hac h'

/-- C12 as an equality: whatever solves the PERT/CPM equations (i.e. any independent
critical-path computation) coincides with what the update stores. -/
theorem C12_eq_spec (m : Model) (time : Nat) (l : Live) (hfs : FSOnly m) (hok : GraphOK m)
    (hac : Acyclic m) (hn : 0 < m.nT) (hrem : ∀ t, t < m.nT → 0 ≤ l.rem t)
    {est eft lst lft : Nat → Rat} {cpl : Rat}
    (hs : PertEqs m (time : Rat) l est eft lst lft cpl) :
    let r := pert m time l
    r.cpl = cpl ∧ ∀ t, t < m.nT →
      r.est t = est t ∧ r.eft t = eft t ∧ r.lst t = lst t ∧ r.lft t = lft t :=
  C12_unique m time l hok hac (C12 m time l hfs hok hac hn hrem) hs

/-- The same at every `__update` of a simulation: the state after the update satisfies the
equations for its own remaining work (the phases before the PERT update may have changed
`rem`; the PERT update itself does not). -/
theorem C12_update (m : Model) (time : Nat) (l : Live) (hfs : FSOnly m) (hok : GraphOK m)
    (hac : Acyclic m) (hn : 0 < m.nT) (hrem : ∀ t, t < m.nT → 0 ≤ (update m time l).rem t) :
    let r := update m time l
    PertEqs m (time : Rat) r r.est r.eft r.lst r.lft r.cpl :=
  PertEqs.congr_rem (Perform.pert_rem ..) (C12 m time (Removal.upd0 m l) hfs hok hac hn hrem)

/-- In the specification the critical path length is also the largest earliest finish over
*all* tasks (remaining work is non-negative). -/
theorem C12_cpl_all (m : Model) (time : Rat) (l : Live) (hok : GraphOK m) (hac : Acyclic m)
    (hrem : ∀ t, t < m.nT → 0 ≤ l.rem t) {est eft lst lft : Nat → Rat} {cpl : Rat}
    (h : PertEqs m time l est eft lst lft cpl) :
    (∀ t, t < m.nT → eft t ≤ cpl) ∧ ∃ t, t < m.nT ∧ eft t = cpl :=
  have ⟨t, ht, _, he⟩ := h.cpl_at
  ⟨h.eft_le_cpl hok hac hrem, t, ht, he⟩

/-- Slack is never negative, for every solution of the equations. -/
theorem C12_spec_slack_nonneg (m : Model) (time : Rat) (l : Live) (hok : GraphOK m)
    (hac : Acyclic m) {est eft lst lft : Nat → Rat} {cpl : Rat}
    (h : PertEqs m time l est eft lst lft cpl) : ∀ t, t < m.nT → est t ≤ lst t :=
  h.est_le_lst hok hac

/-- **Slack is never negative** after a PERT update: `est ≤ lst` (and `time ≤ est`). -/
theorem C12_slack_nonneg (m : Model) (time : Nat) (l : Live) (hfs : FSOnly m) (hok : GraphOK m)
    (hac : Acyclic m) (hn : 0 < m.nT) (hrem : ∀ t, t < m.nT → 0 ≤ l.rem t) :
    let r := pert m time l
    ∀ t, t < m.nT → (time : Rat) ≤ r.est t ∧ r.est t ≤ r.lst t := by
  intro r t ht
  have h := C12 m time l hfs hok hac hn hrem
  exact ⟨h.time_le_est ht, h.est_le_lst hok hac t ht⟩

/-- **Some task has zero slack** after a PERT update. -/
theorem C12_critical (m : Model) (time : Nat) (l : Live) (hfs : FSOnly m) (hok : GraphOK m)
    (hac : Acyclic m) (hn : 0 < m.nT) (hrem : ∀ t, t < m.nT → 0 ≤ l.rem t) :
    let r := pert m time l
    ∃ t, t < m.nT ∧ r.lst t = r.est t := by
  intro r
  obtain ⟨x, hx, _, _, hc⟩ := (C12 m time l hfs hok hac hn hrem).crit_tail
  exact ⟨x, hx, hc⟩

/-- **A whole critical path**: after a PERT update there are a task `a` without predecessors
and a task `b` without successors whose earliest finish is the critical path length, joined by
a chain of dependency edges on which every task has zero slack and starts exactly when its
predecessor on the chain finishes (`CritPath`); `a` starts at `time`. -/
theorem C12_critical_path (m : Model) (time : Nat) (l : Live) (hfs : FSOnly m) (hok : GraphOK m)
    (hac : Acyclic m) (hn : 0 < m.nT) (hrem : ∀ t, t < m.nT → 0 ≤ l.rem t) :
    let r := pert m time l
    ∃ a b, a < m.nT ∧ b < m.nT ∧ (m.task a).inputs = [] ∧ (m.task b).outputs = [] ∧
      r.est a = (time : Rat) ∧ r.eft b = r.cpl ∧ CritPath m r.est r.eft r.lst a b := by
  intro r
  have h := C12 m time l hfs hok hac hn hrem
  obtain ⟨b, hb, hb0, hbe, hbc⟩ := h.crit_tail
  obtain ⟨a, ha, ha0, hch⟩ := h.crit_to hok hac hrem b hb hbc
  refine ⟨a, b, ha, hb, ha0, hb0, ?_, hbe, hch⟩
  have := h.est_eq a ha
  rw [ha0] at this
  exact this

/-! ### non-vacuity: a 4-task diamond `0 → {1, 2} → 3` with stale PERT values -/

namespace C12Ex

def task : Nat → TaskS
  | 0 => { outputs := [(1, .fs), (2, .fs)] }
  | 1 => { inputs := [(0, .fs)], outputs := [(3, .fs)] }
  | 2 => { inputs := [(0, .fs)], outputs := [(3, .fs)] }
  | 3 => { inputs := [(1, .fs), (2, .fs)] }
  | _ => {}

def m : Model :=
  { nT := 4, nW := 0, nF := 0, nTeam := 0, nWp := 0, nC := 0, task := task,
    worker := fun _ => {}, fac := fun _ => {}, team := fun _ => {}, wp := fun _ => {},
    comp := fun _ => {} }

/-- remaining work 3, 2, 5, 0 (a zero included) and nonsense in every PERT field -/
def l : Live :=
  { Live.empty with
    rem := fun t => match t with | 0 => 3 | 1 => 2 | 2 => 5 | _ => 0
    est := fun t => 100 + t, eft := fun _ => 7, lst := fun t => 50 - t, lft := fun _ => 3,
    cpl := 999 }

theorem m_premises : FSOnly m ∧ GraphOK m ∧ Acyclic m ∧ 0 < m.nT ∧ ∀ t, t < m.nT → 0 ≤ l.rem t :=
  ⟨by decide +kernel, by decide +kernel, ⟨id, by decide +kernel⟩, by decide, by decide +kernel⟩

/-- the hypotheses of `C12` are satisfiable -/
example : FSOnly m ∧ GraphOK m ∧ Acyclic m ∧ 0 < m.nT ∧ ∀ t, t < m.nT → 0 ≤ l.rem t :=
  m_premises

/-- the values computed at time 2 from the stale state -/
example :
    let r := pert m 2 l
    (List.range 4).map r.est = [2, 5, 5, 10] ∧ (List.range 4).map r.eft = [5, 7, 10, 10] ∧
    (List.range 4).map r.lst = [2, 8, 5, 10] ∧ (List.range 4).map r.lft = [5, 10, 10, 10] ∧
    r.cpl = 10 := by
  decide +kernel

/-- … and they satisfy the equations, checked by evaluation, independently of `C12` -/
example :
    let r := pert m 2 l
    PertEqs m 2 l r.est r.eft r.lst r.lft r.cpl :=
  ⟨by decide +kernel, by decide +kernel, by decide +kernel, by decide +kernel, by decide +kernel,
   by decide +kernel⟩

end C12Ex

end PDesy

#print axioms PDesy.C12
#print axioms PDesy.C12_unique
#print axioms PDesy.C12_eq_spec
#print axioms PDesy.C12_update
#print axioms PDesy.C12_cpl_all
#print axioms PDesy.C12_spec_slack_nonneg
#print axioms PDesy.C12_slack_nonneg
#print axioms PDesy.C12_critical
#print axioms PDesy.C12_critical_path
