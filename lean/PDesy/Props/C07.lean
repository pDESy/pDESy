/-
  PDesy.Props.C07 — "Cost accounting adds up at every level and charges only working
  resources".

  The row of costs a step appends is computed by `wCostNow … orgCostNow` (Model/Phases, `cost`);
  the loop appends one such row per step (`Logs.loop_logs`) and entry `k` of every log shows the
  state of step `k` (`Logs.loop_rowAt`, `Logs.run_rowAt`: C08), so every statement about that row is
  a statement about the corresponding entry of the logs of a whole run.  The totals instantiate
  `Logs.sum_orgCost_eq_cost_mul_count`, the charges `Logs.wCostNow_eq` and `Logs.costNow_absence`.
-/
import PDesy.Lemmas.Logs

namespace PDesy
open PDesy.Logs

variable {m : Model} {p : Params}

/-- The amount a worker is charged at a step: its `cost_per_time` exactly when it is *logged*
WORKING at that step (`showR` is the display rule of the state log), otherwise 0.  In
particular 0 for everyone at a project-wide absence step (`wk = false`). -/
theorem C07_worker_now (l : Live) (wk : Bool) (w : Nat) :
    wCostNow m l wk w = if showR wk (l.wstate w) = .working then (m.worker w).cost else 0 :=
  wCostNow_eq l wk w

/-- The same for a facility. -/
theorem C07_fac_now (l : Live) (wk : Bool) (f : Nat) :
    fCostNow m l wk f = if showR wk (l.fstate f) = .working then (m.fac f).cost else 0 :=
  fCostNow_eq l wk f

/-- At a project-wide absence step every worker, facility, team, workplace and the organization
are charged 0. -/
theorem C07_absence_now (l : Live) :
    (∀ w, wCostNow m l false w = 0) ∧ (∀ f, fCostNow m l false f = 0) ∧
    (∀ a, teamCostNow m l false a = 0) ∧ (∀ q, wpCostNow m l false q = 0) ∧
    orgCostNow m l false = 0 := costNow_absence l

/-- A team's charge is the sum of its workers' charges. -/
theorem C07_team_now (l : Live) (wk : Bool) (a : Nat) :
    teamCostNow m l wk a = sumList ((m.team a).workers.map (wCostNow m l wk)) := rfl

/-- A workplace's charge is the sum of its facilities' charges. -/
theorem C07_wp_now (l : Live) (wk : Bool) (q : Nat) :
    wpCostNow m l wk q = sumList ((m.wp q).facs.map (fCostNow m l wk)) := rfl

/-- The organization's charge is the sum over teams plus the sum over workplaces. -/
theorem C07_org_now (l : Live) (wk : Bool) :
    orgCostNow m l wk = sumList ((List.range m.nTeam).map (teamCostNow m l wk)) +
      sumList ((List.range m.nWp).map (wpCostNow m l wk)) := rfl

/-- One loop iteration appends the same number — the organization's charge, computed from the
state the step records, with the working flag of the step's time — to the project's and to the
organization's cost list. -/
theorem C07_step_proj (s : St) :
    (stepBody m p s).logs.projCost =
      s.logs.projCost ++ [orgCostNow m (stepBody m p s).live (workingAt p s.time)] ∧
    (stepBody m p s).logs.orgCost =
      s.logs.orgCost ++ [orgCostNow m (stepBody m p s).live (workingAt p s.time)] := by
  rw [stepBody_logs, row_projCost, row_orgCost]; simp

/-- members of teams are workers of the model, members of workplaces are facilities of the
model (indices in range) -/
def MembersOK (m : Model) : Prop :=
  (∀ a, a < m.nTeam → ∀ w ∈ (m.team a).workers, w < m.nW) ∧
  (∀ q, q < m.nWp → ∀ f ∈ (m.wp q).facs, f < m.nF)

instance (m : Model) : Decidable (MembersOK m) := by unfold MembersOK; infer_instance

/-- Cost accounting of log row `n`, stated on the logs alone: each worker/facility entry is its
`cost_per_time` if its state-log entry `n` is WORKING and 0 otherwise; each team/workplace entry
is the sum of its members' entries; the organization entry is the sum of the team entries plus
the sum of the workplace entries; the project entry is the organization entry. -/
structure CostRow (m : Model) (lg : Logs) (n : Nat) : Prop where
  worker : ∀ w, w < m.nW → (lg.wCost w)[n]? =
    some (if (lg.wState w)[n]? = some RS.working then (m.worker w).cost else 0)
  fac : ∀ f, f < m.nF → (lg.fCost f)[n]? =
    some (if (lg.fState f)[n]? = some RS.working then (m.fac f).cost else 0)
  team : ∀ a, a < m.nTeam → (lg.teamCost a)[n]? =
    some (sumList ((m.team a).workers.map fun w => ((lg.wCost w)[n]?).getD 0))
  wp : ∀ q, q < m.nWp → (lg.wpCost q)[n]? =
    some (sumList ((m.wp q).facs.map fun f => ((lg.fCost f)[n]?).getD 0))
  org : lg.orgCost[n]? =
    some (sumList ((List.range m.nTeam).map fun a => ((lg.teamCost a)[n]?).getD 0) +
          sumList ((List.range m.nWp).map fun q => ((lg.wpCost q)[n]?).getD 0))
  proj : lg.projCost[n]? = lg.orgCost[n]?

/-- A log row that shows a live state (C08) satisfies the cost accounting. -/
theorem C07_row (hm : MembersOK m) {lg : Logs} {n : Nat} {wk : Bool} {l : Live}
    (h : RowAt m lg n wk l) : CostRow m lg n where
  worker := by
    intro w hw; rw [h.wCost w hw, h.wState w hw, wCostNow_eq]; simp
  fac := by
    intro f hf; rw [h.fCost f hf, h.fState f hf, fCostNow_eq]; simp
  team := fun a ha => by
    rw [h.teamCost a ha, teamCostNow, map_getD_eq fun w hw => h.wCost w (hm.1 a ha w hw)]
  wp := fun q hq => by
    rw [h.wpCost q hq, wpCostNow, map_getD_eq fun f hf => h.fCost f (hm.2 q hq f hf)]
  org := by
    rw [h.orgCost, orgCostNow, map_getD_eq fun a ha => h.teamCost a (List.mem_range.mp ha),
      map_getD_eq fun q hq => h.wpCost q (List.mem_range.mp hq)]
  proj := by rw [h.projCost, h.orgCost]

/-- **C07 (every step).**  For every step `k` the loop executed, row `s.time + k` of the cost
logs of the final state satisfies the accounting `CostRow` (started from aligned logs). -/
theorem C07_entry (hm : MembersOK m) (fuel : Nat) (s : St) (h : Aligned m s) (k : Nat)
    (hk : k < (trace m p fuel s).length) :
    CostRow m (loop m p fuel s).logs (s.time + k) :=
  C07_row hm (loop_rowAt fuel s h k hk)

example : MembersOK demo := by decide
example : Aligned demo St.fresh := aligned_fresh demo
example : 2 < (trace demo demoP 9 St.fresh).length := demo_trace

/-- **C07 for a whole run** (with `initLog = true`): row `k` of the cost logs of
`simulate m p s` satisfies the accounting, for every executed step `k`. -/
theorem C07_run_entry (hm : MembersOK m) (s : St) (h : p.initLog = true) (k : Nat)
    (hk : k < (runTrace m p s).length) :
    CostRow m (simulate m p s).logs k :=
  C07_row hm (run_rowAt s h k hk)

example : demoP.initLog = true := rfl
example : (runTrace demo demoP St.fresh).length = 4 := demo_run.2.2.1
example : (simulate demo demoP St.fresh).logs.projCost = [3, 0, 3, 12] := demo_run.2.2.2.1

/-- At a project-wide absence step of a run every entry of every cost log is 0. -/
theorem C07_absence_entry (fuel : Nat) (s : St) (h : Aligned m s) (k : Nat)
    (hk : k < (trace m p fuel s).length) (hab : p.absence.contains (s.time + k) = true) :
    (∀ w, w < m.nW → ((loop m p fuel s).logs.wCost w)[s.time + k]? = some 0) ∧
    (∀ f, f < m.nF → ((loop m p fuel s).logs.fCost f)[s.time + k]? = some 0) ∧
    (∀ a, a < m.nTeam → ((loop m p fuel s).logs.teamCost a)[s.time + k]? = some 0) ∧
    (∀ q, q < m.nWp → ((loop m p fuel s).logs.wpCost q)[s.time + k]? = some 0) ∧
    (loop m p fuel s).logs.orgCost[s.time + k]? = some 0 ∧
    (loop m p fuel s).logs.projCost[s.time + k]? = some 0 := by
  have h1 := (workingAt_false_iff.mpr hab ▸ loop_rowAt (p := p) fuel s h k hk).absence
  exact ⟨fun w hw => (h1.1 w hw).2, fun f hf => (h1.2.1 f hf).2, h1.2.2⟩

example : demoP.absence.contains (St.fresh.time + 1) = true := by decide

/-- The project's cost list equals the organization's after the loop whenever it did
before. -/
theorem C07_proj_eq_org (fuel : Nat) (s : St) (h : s.logs.projCost = s.logs.orgCost) :
    (loop m p fuel s).logs.projCost = (loop m p fuel s).logs.orgCost := by
  rw [loop_logs, rowLogs_projCost, rowLogs_orgCost, h]

/-- After a run with `initLog = true` the project's cost list equals the organization's. -/
theorem C07_run_proj_eq_org (s : St) (h : p.initLog = true) :
    (simulate m p s).logs.projCost = (simulate m p s).logs.orgCost := by
  rw [simulate_eq]; apply C07_proj_eq_org; rw [enter_logs s h]; rfl

example : St.fresh.logs.projCost = St.fresh.logs.orgCost := rfl

/-- the teams partition the workers, in order (the numbering convention of the model:
workers are numbered along the teams' worker lists) -/
def PartW (m : Model) : Prop :=
  (List.range m.nTeam).flatMap (fun a => (m.team a).workers) = List.range m.nW

instance (m : Model) : Decidable (PartW m) := by unfold PartW; infer_instance

/-- the workplaces partition the facilities, in order -/
def PartF (m : Model) : Prop :=
  (List.range m.nWp).flatMap (fun q => (m.wp q).facs) = List.range m.nF

instance (m : Model) : Decidable (PartF m) := by unfold PartF; infer_instance

/-- **C07 (total), permutation form.**  If the teams' worker lists together are a permutation
of the workers and the workplaces' facility lists a permutation of the facilities, the sum of
the project-cost entries the loop appended equals the sum over workers of `cost_per_time` times
the number of appended state-log entries equal to WORKING, plus the same for facilities. -/
theorem C07_total_perm
    (hW : ((List.range m.nTeam).flatMap fun a => (m.team a).workers).Perm (List.range m.nW))
    (hF : ((List.range m.nWp).flatMap fun q => (m.wp q).facs).Perm (List.range m.nF))
    (fuel : Nat) (s : St) :
    sumList ((loop m p fuel s).logs.projCost.drop s.logs.projCost.length) =
      sumList ((List.range m.nW).map fun w => (m.worker w).cost *
        (((((loop m p fuel s).logs.wState w).drop (s.logs.wState w).length).count
          RS.working : Nat) : Rat)) +
      sumList ((List.range m.nF).map fun f => (m.fac f).cost *
        (((((loop m p fuel s).logs.fState f).drop (s.logs.fState f).length).count
          RS.working : Nat) : Rat)) := by
  rw [loop_logs, rowLogs_projCost, List.drop_left, sum_orgCost_eq_cost_mul_count hW hF]
  congr 2
  · apply List.map_congr_left
    intro w hw
    rw [rowLogs_wState _ _ (List.mem_range.mp hw), List.drop_left]
  · apply List.map_congr_left
    intro f hf
    rw [rowLogs_fState _ _ (List.mem_range.mp hf), List.drop_left]

/-- **C07 (total).**  The same with the partition hypotheses as equalities. -/
theorem C07_total (hW : PartW m) (hF : PartF m) (fuel : Nat) (s : St) :
    sumList ((loop m p fuel s).logs.projCost.drop s.logs.projCost.length) =
      sumList ((List.range m.nW).map fun w => (m.worker w).cost *
        (((((loop m p fuel s).logs.wState w).drop (s.logs.wState w).length).count
          RS.working : Nat) : Rat)) +
      sumList ((List.range m.nF).map fun f => (m.fac f).cost *
        (((((loop m p fuel s).logs.fState f).drop (s.logs.fState f).length).count
          RS.working : Nat) : Rat)) :=
  C07_total_perm (by rw [hW]) (by rw [hF]) fuel s

example : PartW demo := by decide
example : PartF demo := by decide

/-- **C07 (total) for a whole run.**  After `simulate` with `initLog = true`, the total project
cost equals the sum over workers of `cost_per_time` times the number of steps the worker is
logged WORKING, plus the sum over facilities of `cost_per_time` times the number of steps the
facility is logged WORKING. -/
theorem C07_run_total (hW : PartW m) (hF : PartF m) (s : St) (h : p.initLog = true) :
    sumList (simulate m p s).logs.projCost =
      sumList ((List.range m.nW).map fun w => (m.worker w).cost *
        ((((simulate m p s).logs.wState w).count RS.working : Nat) : Rat)) +
      sumList ((List.range m.nF).map fun f => (m.fac f).cost *
        ((((simulate m p s).logs.fState f).count RS.working : Nat) : Rat)) := by
  have h1 := C07_total (p := p) hW hF (fuelOf p (enter m p s)) (enter m p s)
  rw [← simulate_eq, enter_logs s h] at h1
  simp only [clearLogs, Logs.empty, List.length_nil, List.drop_zero] at h1
  exact h1

/-- the demo run costs 18 = 3·2 (worker 0 logged WORKING twice) + 5·1 + 7·1 -/
example : sumList (simulate demo demoP St.fresh).logs.projCost = 18 ∧
    ((simulate demo demoP St.fresh).logs.wState 0).count RS.working = 2 ∧
    ((simulate demo demoP St.fresh).logs.wState 1).count RS.working = 1 ∧
    ((simulate demo demoP St.fresh).logs.fState 0).count RS.working = 1 := by
  obtain ⟨-, -, -, hc, -, -, -, h0, h1, hf⟩ := demo_run
  rw [hc, h0, h1, hf]
  decide +kernel

end PDesy

#print axioms PDesy.C07_worker_now
#print axioms PDesy.C07_fac_now
#print axioms PDesy.C07_absence_now
#print axioms PDesy.C07_team_now
#print axioms PDesy.C07_wp_now
#print axioms PDesy.C07_org_now
#print axioms PDesy.C07_step_proj
#print axioms PDesy.C07_row
#print axioms PDesy.C07_entry
#print axioms PDesy.C07_run_entry
#print axioms PDesy.C07_absence_entry
#print axioms PDesy.C07_proj_eq_org
#print axioms PDesy.C07_run_proj_eq_org
#print axioms PDesy.C07_total_perm
#print axioms PDesy.C07_total
#print axioms PDesy.C07_run_total
