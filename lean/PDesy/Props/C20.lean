/-
  PDesy.Props.C20 — "A sub-project task lasts exactly as long as the sub-project it stands for".

  A sub-project task configured from the saved result of a successfully simulated project takes
  the sub-project's duration (optionally without its absence steps) as its work amount and, once
  its unit time is related to the parent project's, occupies exactly
  `⌈duration × sub-project unit / parent unit⌉` working steps of the parent simulation, starting
  at the first working step at which its dependencies allow it and needing no workers.
  Configuring it from a project that was not simulated successfully is refused with a warning and
  leaves the task unchanged.

  The setters are those of `Model/SubProject`: `configureSub` (= `set_all_attributes_from_json`),
  `durationOf`, `relateSub` (= `set_work_amount_progress_of_unit_step_time`).  For the simulator a
  sub-project task is an AUTOMATIC task without component, with work `D` and rate
  `r = (m.task t).autoRate`; "the setting" below is
      `t < m.nT`, `isAuto`, `comp = none`, `∀ e ∈ (m.task t).inputs, e.2 = .fs ∨ e.2 = .ss`
  (no finish-gated input; `Auto.SubTask`).  `iter m p s = stepBody m p (updated m s)` is one loop
  iteration (`__update`, then the step); `Nat.repeat (iter m p) k s0` is the state recorded after
  `k` iterations from `s0` (`C20_trace`); `activeAt p τ` = the step executed at time `τ` makes
  automatic tasks progress (a working step, or any step when
  `perform_auto_task_while_absence_time` is set); `Auto.acts p τ k` = the number of `j < k` with
  `activeAt p (τ + j)`; `Auto.ceilNat x` = `⌈x⌉` as a natural number (`x.ceil.toNat`).
  The theorems about the parent run instantiate `iter_open`, `run_before`, `run_occ`,
  `repeat_iter_tState` (Lemmas/Auto); `C20_steps` puts the setters and the run together.

  Nothing starts at an INACTIVE step (a project absence step while automatic tasks are not
  performed during absence): a task that becomes READY there waits in READY, with all its work,
  until the next active step; a WORKING task rests there.  So the occupation runs from the first
  ACTIVE step at or after the step at which the dependencies allow the start.

  Known corner (kept as a finding, not claimed away): a task of duration 0 that becomes READY is
  still started and performed once, so it occupies one step instead of none; the parent run is
  therefore described for `D > 0` (`C20_iteration` shows the corner: READY with `x ≤ 0` ends an
  active step WORKING).
-/
import PDesy.Lemmas.Auto
import PDesy.Lemmas.Edit
import PDesy.Lemmas.Elig

namespace PDesy
open Auto

/-- **C20 (refused).**  Configuring from a result whose status is not SUCCESS changes nothing and
reports a warning. -/
theorem C20_refused (cfg : SubCfg) (r : SubResult) (remove : Bool) (h : r.status ≠ .success) :
    configureSub cfg r remove = (cfg, true) := by
  simp [configureSub, h]

/-- **C20 (configured).**  Configuring from a SUCCESS result sets the work amount to the duration
of the saved run (`durationOf`) and the unit time to the saved unit time, records the two flags,
leaves the rate alone and reports no warning. -/
theorem C20_configured (cfg : SubCfg) (r : SubResult) (remove : Bool) (h : r.status = .success) :
    (configureSub cfg r remove).1.work = ((durationOf r remove : Nat) : Rat) ∧
    (configureSub cfg r remove).1.unit = r.unit ∧
    (configureSub cfg r remove).1.rate = cfg.rate ∧
    (configureSub cfg r remove).1.readFile = true ∧
    (configureSub cfg r remove).1.removeAbs = remove ∧
    (configureSub cfg r remove).2 = false := by
  simp [configureSub, h]

/-- **C20 (duration, absence kept).**  Without removal the duration is the saved run's time. -/
theorem C20_duration_keep (r : SubResult) : durationOf r false = r.time := rfl

/-- **C20 (duration, absence removed).**  For an aligned saved result (cost list as long as the
run) the duration after `remove_absence_time_list` is the run's time minus the number of distinct
absence steps below it: `(List.range r.time).countP (· ∈ r.absence)` counts the `k < r.time`
with `k ∈ r.absence`, each once however often it is listed. -/
theorem C20_duration_remove (r : SubResult) (hal : r.costLen = r.time) :
    durationOf r true = r.time - (List.range r.time).countP (fun k => decide (k ∈ r.absence)) ∧
    durationOf r true ≤ r.time := by
  unfold durationOf
  rw [if_pos rfl, hal, Edit.stepsBelow_length]
  exact ⟨rfl, Nat.sub_le _ _⟩

/-- the steps counted are the members of the absence list below the run's time, each once -/
theorem C20_duration_steps (n : Nat) (xs : List Nat) :
    (∀ k, k ∈ stepsBelow n xs ↔ k < n ∧ k ∈ xs) ∧ (stepsBelow n xs).Nodup ∧
    (stepsBelow n xs).length = (List.range n).countP (fun k => decide (k ∈ xs)) :=
  ⟨fun _ => Edit.mem_stepsBelow, Edit.stepsBelow_nodup n xs, Edit.stepsBelow_length n xs⟩

/-- **C20 (duration, absence removed, plain list).**  If moreover the absence list is
duplicate-free and lies below the run's time, the duration is `time − absence.length`. -/
theorem C20_duration_remove_nodup (r : SubResult) (hal : r.costLen = r.time)
    (hnd : r.absence.Nodup) (hlt : ∀ k ∈ r.absence, k < r.time) :
    durationOf r true = r.time - r.absence.length := by
  unfold durationOf
  rw [if_pos rfl, hal, (Edit.stepsBelow_perm _ _ hnd hlt).length_eq]

/-- **C20 (rate).**  Relating the task to the parent's unit time sets the rate to
`parent unit / sub-project unit` and nothing else. -/
theorem C20_rate (cfg : SubCfg) (u : Rat) :
    (relateSub cfg u).rate = u / cfg.unit ∧ (relateSub cfg u).work = cfg.work ∧
    (relateSub cfg u).unit = cfg.unit ∧ (relateSub cfg u).readFile = cfg.readFile ∧
    (relateSub cfg u).removeAbs = cfg.removeAbs :=
  ⟨rfl, rfl, rfl, rfl, rfl⟩

/-- hence `work / rate = duration × sub-project unit / parent unit` -/
theorem C20_rate_quotient (cfg : SubCfg) (u : Rat) (hu : 0 < u) (hc : 0 < cfg.unit) :
    (relateSub cfg u).work / (relateSub cfg u).rate = cfg.work * cfg.unit / u := by
  show cfg.work / (u / cfg.unit) = _
  rw [Rat.div_def, Rat.div_def, Rat.inv_mul_rev, Rat.inv_inv, ← Rat.mul_assoc, Rat.div_def]

namespace C20Ex

/-- a saved run of 5 steps, two of which (1 and 3) were absence steps; 7 is out of range and 3
is listed twice -/
def res : SubResult := { status := .success, time := 5, absence := [1, 3, 7, 3], costLen := 5, unit := 3600 }

def resFailed : SubResult := { res with status := .failure }

def cfg0 : SubCfg := { work := 0, unit := 1, rate := 1, readFile := false, removeAbs := false }

end C20Ex

example : C20Ex.resFailed.status ≠ .success ∧
    configureSub C20Ex.cfg0 C20Ex.resFailed true = (C20Ex.cfg0, true) := by decide +kernel

example : C20Ex.res.status = .success ∧ C20Ex.res.costLen = C20Ex.res.time ∧
    durationOf C20Ex.res false = 5 ∧ durationOf C20Ex.res true = 3 ∧
    (configureSub C20Ex.cfg0 C20Ex.res true).1.work = 3 ∧
    (relateSub (configureSub C20Ex.cfg0 C20Ex.res true).1 7200).rate = 2 := by decide +kernel

/-- `⌈x⌉` as a natural number -/
theorem C20_ceilNat_def (x : Rat) : ceilNat x = x.ceil.toNat := rfl

/-- **C20 (ceiling).**  For `D > 0`, `r > 0` the number `n = ⌈D / r⌉` is at least 1, satisfies
`(n − 1) · r < D ≤ n · r`, and is the only natural number that does. -/
theorem C20_ceil {D r : Rat} (hD : 0 < D) (hr : 0 < r) :
    1 ≤ ceilNat (D / r) ∧
    ((ceilNat (D / r) : Rat) - 1) * r < D ∧ D ≤ (ceilNat (D / r) : Rat) * r ∧
    ∀ n' : Nat, ((n' : Rat) - 1) * r < D → D ≤ (n' : Rat) * r → n' = ceilNat (D / r) := by
  obtain ⟨h1, h2⟩ := ceilNat_spec hD hr
  exact ⟨h1, h2.1, h2.2, fun n' a b => IsCeil.unique hr ⟨a, b⟩ h2⟩

example : ceilNat ((3 : Rat) / 2) = 2 ∧ ceilNat ((4 : Rat) / 2) = 2 ∧ ceilNat ((5 : Rat) / 2) = 3 := by
  decide +kernel

/-- **C20 (one iteration).**  In the setting, if the task is READY or WORKING in `s` with
remaining work `x = s.live.rem t`, then after one loop iteration the time has advanced by 1 and
* if it was WORKING with `x ≤ 0`, it is FINISHED with remaining work 0 (it finishes in
  `__update`);
* otherwise, if the step is active, it is WORKING (a READY task is started in the same
  iteration, needing no worker) and its remaining work is `x − r`;
* otherwise, if the step is inactive (project absence, flag off), its state is unchanged — a
  READY task is not started there, a WORKING task rests — and its remaining work is `x`. -/
theorem C20_iteration (m : Model) (p : Params) (s : St) (t : Nat)
    (ht : t < m.nT) (ha : (m.task t).isAuto = true) (hc : (m.task t).comp = Option.none)
    (hg : ∀ e ∈ (m.task t).inputs, e.2 = .fs ∨ e.2 = .ss)
    (hs : s.live.tstate t = .ready ∨ s.live.tstate t = .working) :
    (iter m p s).time = s.time + 1 ∧
    (if s.live.tstate t = .working ∧ s.live.rem t ≤ 0 then
      (iter m p s).live.tstate t = .finished ∧ (iter m p s).live.rem t = 0
    else
      (iter m p s).live.tstate t =
        (if activeAt p s.time = true then .working else s.live.tstate t) ∧
      (iter m p s).live.rem t =
        s.live.rem t - (if activeAt p s.time = true then (m.task t).autoRate else 0)) := by
  have h : SubTask m t := ⟨ht, ha, hc, hg⟩
  refine ⟨rfl, ?_⟩
  by_cases hd : s.live.tstate t = .working ∧ s.live.rem t ≤ 0
  · rw [if_pos hd]; exact iter_working_done h p s hd.1 hd.2
  · rw [if_neg hd]; exact iter_open h p s hs hd

/-- **C20 (recorded states are iterations).**  Entry `j + k` of the list of recorded states of a
run arises from entry `j` by `k` iterations, so everything below applies to the recorded states
of `simulate` with `s0 := (trace …)[j]`. -/
theorem C20_trace (m : Model) (p : Params) (fuel : Nat) (s : St) (j k : Nat)
    (h : j + k < (trace m p fuel s).length) :
    (trace m p fuel s)[j + k] = Nat.repeat (iter m p) k ((trace m p fuel s)[j]'(by omega)) :=
  trace_add_eq_repeat_iter p fuel s j k h

/-- time advances by one per iteration -/
theorem C20_time (m : Model) (p : Params) (s0 : St) (k : Nat) :
    (Nat.repeat (iter m p) k s0).time = s0.time + k :=
  repeat_iter_time p s0 k

/-- **C20 (occupation, while work is left).**  Setting as above, rate `r > 0`; `s0` is a state
whose `__update` leaves the task READY (it was READY, or it was NONE and its start gate has
just opened) with remaining work `D`; `n = ⌈D / r⌉`.  As long as fewer than `n` active steps
happened *before* an iteration, the task ends that iteration with remaining work
`D − acts · r`, where `acts` counts the active steps up to and including this iteration —
still READY (with all of `D`) while `acts = 0`, and WORKING once `acts ≥ 1`; and as long as fewer
than `n` happened up to and including it, that remaining work is positive. -/
theorem C20_working (m : Model) (p : Params) (s0 : St) (t : Nat)
    (ht : t < m.nT) (ha : (m.task t).isAuto = true) (hc : (m.task t).comp = Option.none)
    (hg : ∀ e ∈ (m.task t).inputs, e.2 = .fs ∨ e.2 = .ss)
    (hr : 0 < (m.task t).autoRate) {D : Rat} (hD : 0 < D)
    (hstart : (updated m s0).live.tstate t = .ready) (hrem : s0.live.rem t = D)
    (k : Nat) (hk : acts p s0.time k < ceilNat (D / (m.task t).autoRate)) :
    (Nat.repeat (iter m p) (k + 1) s0).live.tstate t =
      (if acts p s0.time (k + 1) = 0 then .ready else .working) ∧
    (Nat.repeat (iter m p) (k + 1) s0).live.rem t =
      D - (acts p s0.time (k + 1) : Rat) * (m.task t).autoRate ∧
    (acts p s0.time (k + 1) < ceilNat (D / (m.task t).autoRate) →
      0 < (Nat.repeat (iter m p) (k + 1) s0).live.rem t) := by
  have hn := (ceilNat_spec hD hr).2
  obtain ⟨w1, w2⟩ := run_before ⟨ht, ha, hc, hg⟩ p s0 hr hstart hrem hn k hk
  exact ⟨w1, w2, fun hlt => by rw [w2]; exact hn.rem_pos hr hlt⟩

/-- **C20 (occupation, the last working step and the end).**  Same setting.  Let iteration
`K + 1` be the one in which the `n`-th active step happens (`acts … K < n`,
`acts … (K + 1) = n`).  Then
* after it the task is WORKING with remaining work `D − n · r ≤ 0`;
* the task is WORKING at the end of exactly the iterations from the one of the first active
  step (`1 ≤ acts … j`) to `K + 1` — exactly `n` active steps, consecutive except for inactive
  steps in between;
* before the first active step (`acts … j = 0`) it is READY with remaining work `D`;
* from iteration `K + 2` on it is FINISHED with remaining work 0. -/
theorem C20_occupation (m : Model) (p : Params) (s0 : St) (t : Nat)
    (ht : t < m.nT) (ha : (m.task t).isAuto = true) (hc : (m.task t).comp = Option.none)
    (hg : ∀ e ∈ (m.task t).inputs, e.2 = .fs ∨ e.2 = .ss)
    (hr : 0 < (m.task t).autoRate) {D : Rat} (hD : 0 < D)
    (hstart : (updated m s0).live.tstate t = .ready) (hrem : s0.live.rem t = D)
    (K : Nat) (hK : acts p s0.time K < ceilNat (D / (m.task t).autoRate))
    (hK' : acts p s0.time (K + 1) = ceilNat (D / (m.task t).autoRate)) :
    ((Nat.repeat (iter m p) (K + 1) s0).live.tstate t = .working ∧
     (Nat.repeat (iter m p) (K + 1) s0).live.rem t =
       D - (ceilNat (D / (m.task t).autoRate) : Rat) * (m.task t).autoRate ∧
     D - (ceilNat (D / (m.task t).autoRate) : Rat) * (m.task t).autoRate ≤ 0) ∧
    (∀ j, 1 ≤ j → ((Nat.repeat (iter m p) j s0).live.tstate t = .working ↔
      1 ≤ acts p s0.time j ∧ j ≤ K + 1)) ∧
    (∀ j, 1 ≤ j → acts p s0.time j = 0 →
      (Nat.repeat (iter m p) j s0).live.tstate t = .ready ∧
      (Nat.repeat (iter m p) j s0).live.rem t = D) ∧
    (∀ j, K + 2 ≤ j → (Nat.repeat (iter m p) j s0).live.tstate t = .finished ∧
        (Nat.repeat (iter m p) j s0).live.rem t = 0) := by
  obtain ⟨hn1, hn⟩ := ceilNat_spec hD hr
  have occ {j : Nat} := run_occ ⟨ht, ha, hc, hg⟩ p s0 hr hD hstart hrem hn hK hK' (j := j)
  refine ⟨?_, fun j hj => ?_, fun j hj hz => ?_, fun j hj => ?_⟩
  · obtain ⟨w1, w2⟩ := occ (Nat.le_add_left 1 K)
    rw [if_pos (Nat.le_refl _), hK'] at w1 w2
    exact ⟨w1.trans ((occState_eq_working_iff _).mpr hn1), w2, hn.rem_done⟩
  · rw [(occ hj).1]
    by_cases h : j ≤ K + 1
    · rw [if_pos h, occState_eq_working_iff]; exact (and_iff_left h).symm
    · rw [if_neg h]; exact iff_of_false (fun e => nomatch e) fun h1 => h h1.2
  · -- no active step has happened, so the `n`-th has not
    have hjK : j ≤ K := (acts_lt_iff p s0.time hK hK' j).mp (hz ▸ hn1)
    obtain ⟨w1, w2⟩ := occ hj
    rw [if_pos (Nat.le_succ_of_le hjK), hz] at w1 w2
    exact ⟨w1, w2.trans (by rw [show ((0 : Nat) : Rat) = 0 from rfl, Rat.zero_mul, sub_zero])⟩
  · obtain ⟨w1, w2⟩ := occ (Nat.le_trans (Nat.succ_pos _) hj)
    rw [if_neg (Nat.not_le.mpr hj)] at w1 w2
    exact ⟨w1, w2⟩

/-- the `n`-th active step always comes: the iteration `K + 1` of `C20_occupation` exists (an
absence list is finite) and lies within `n + p.absence.length` iterations -/
theorem C20_occupation_ends (p : Params) (τ n : Nat) (hn : 1 ≤ n) :
    ∃ K, K < n + p.absence.length ∧ acts p τ K < n ∧ acts p τ (K + 1) = n :=
  exists_nth_lt p τ n hn

/-- **C20 (duration without project absence).**  Same setting, and every step from `s0.time` on
is active (`C20_all_active`: no project absence, or the flag set).  Then the task is WORKING at
the end of exactly the iterations `1, …, n`, with remaining work `D − k · r` after iteration
`k ≤ n`, and FINISHED with remaining work 0 from iteration `n + 1` on: exactly
`n = ⌈D / r⌉` consecutive steps. -/
theorem C20_duration_no_absence (m : Model) (p : Params) (s0 : St) (t : Nat)
    (ht : t < m.nT) (ha : (m.task t).isAuto = true) (hc : (m.task t).comp = Option.none)
    (hg : ∀ e ∈ (m.task t).inputs, e.2 = .fs ∨ e.2 = .ss)
    (hr : 0 < (m.task t).autoRate) {D : Rat} (hD : 0 < D)
    (hstart : (updated m s0).live.tstate t = .ready) (hrem : s0.live.rem t = D)
    (hact : ∀ j, activeAt p (s0.time + j) = true) :
    (∀ k, 1 ≤ k → k ≤ ceilNat (D / (m.task t).autoRate) →
      (Nat.repeat (iter m p) k s0).live.rem t = D - (k : Rat) * (m.task t).autoRate) ∧
    (∀ j, 1 ≤ j → ((Nat.repeat (iter m p) j s0).live.tstate t = .working ↔
      j ≤ ceilNat (D / (m.task t).autoRate))) ∧
    (∀ j, ceilNat (D / (m.task t).autoRate) + 1 ≤ j →
      (Nat.repeat (iter m p) j s0).live.tstate t = .finished ∧
      (Nat.repeat (iter m p) j s0).live.rem t = 0) := by
  have hacts : ∀ k, acts p s0.time k = k := fun k => acts_all_active p s0.time k fun j _ => hact j
  -- the `n`-th active step is that of iteration `n = K + 1`
  obtain ⟨K, hKn⟩ := Nat.exists_eq_add_one.mpr (ceilNat_spec hD hr).1
  have hocc := C20_occupation m p s0 t ht ha hc hg hr hD hstart hrem K
    (by rw [hacts, hKn]; exact Nat.lt_succ_self K) (by rw [hacts, hKn])
  rw [hKn]
  refine ⟨fun k hk1 hk2 => ?_, fun j hj => ?_, hocc.2.2.2⟩
  · obtain ⟨k, rfl⟩ := Nat.exists_eq_add_one.mpr hk1
    have h := (C20_working m p s0 t ht ha hc hg hr hD hstart hrem k
      (by rw [hacts, hKn]; exact hk2)).2.1
    rwa [hacts] at h
  · rw [hocc.2.1 j hj, hacts]
    exact and_iff_right hj

/-- every step is active when the run has no project absence or performs automatic tasks during
absence -/
theorem C20_all_active (p : Params) (h : p.absence = [] ∨ p.autoFlag = true) (k : Nat) :
    activeAt p k = true := by
  rcases h with h | h <;> simp [activeAt, h]

/-- **C20 (needs no worker).**  If the allocations of `s0` satisfy the eligibility invariant of
C04 (true after `initialize` and at every state of a run: `C04_init`, `C04_trace`), the task
holds no worker and no facility after any number of iterations. -/
theorem C20_no_worker (m : Model) (p : Params) (s0 : St) (t : Nat)
    (ht : t < m.nT) (ha : (m.task t).isAuto = true) (hI : Elig.EligInv m s0.live) (k : Nat) :
    (Nat.repeat (iter m p) k s0).live.allocW t = [] ∧
    (Nat.repeat (iter m p) k s0).live.allocF t = [] :=
  (repeat_iter_inv p (Elig.EligInv_update m) (Elig.EligInv_stepBody m p) hI k t ht).auto ha

/-- **C20 (what the log shows).**  Same setting and `K` as in `C20_occupation`.  The rows the
iterations `1, …, K + 1` append to the task's state log are WORKING on working steps and READY
on project-absence steps (before its first active step the task IS still READY — such a step is
a project-absence step —, afterwards a WORKING task is displayed READY on an absence step), the
next row is FINISHED, and — when automatic tasks are not performed during absence — exactly `n`
of the `K + 1` rows show WORKING. -/
theorem C20_log (m : Model) (p : Params) (s0 : St) (t : Nat)
    (ht : t < m.nT) (ha : (m.task t).isAuto = true) (hc : (m.task t).comp = Option.none)
    (hg : ∀ e ∈ (m.task t).inputs, e.2 = .fs ∨ e.2 = .ss)
    (hr : 0 < (m.task t).autoRate) {D : Rat} (hD : 0 < D)
    (hstart : (updated m s0).live.tstate t = .ready) (hrem : s0.live.rem t = D)
    (K : Nat) (hK : acts p s0.time K < ceilNat (D / (m.task t).autoRate))
    (hK' : acts p s0.time (K + 1) = ceilNat (D / (m.task t).autoRate)) :
    (Nat.repeat (iter m p) (K + 2) s0).logs.tState t =
      s0.logs.tState t ++
        ((List.range (K + 1)).map fun j => if workingAt p (s0.time + j) = true then TS.working else TS.ready)
        ++ [TS.finished] ∧
    (p.autoFlag = false →
      ((List.range (K + 1)).map fun j =>
        if workingAt p (s0.time + j) = true then TS.working else TS.ready).count .working =
        ceilNat (D / (m.task t).autoRate)) := by
  have occ {j : Nat} :=
    run_occ ⟨ht, ha, hc, hg⟩ p s0 hr hD hstart hrem (ceilNat_spec hD hr).2 hK hK' (j := j)
  constructor
  · rw [repeat_iter_tState p s0 ht (K + 2), List.range_succ, List.map_append, List.append_assoc]
    congr 2
    · apply List.map_congr_left
      intro j hj
      rw [(occ (Nat.le_add_left 1 j)).1, if_pos (Nat.succ_le_of_lt (List.mem_range.mp hj)),
        showT_occState]
    · simp only [List.map_cons, List.map_nil]
      rw [(occ (Nat.le_add_left 1 (K + 1))).1, if_neg (Nat.not_succ_le_self (K + 1))]
      cases workingAt p (s0.time + (K + 1)) <;> rfl
  · intro hf
    rw [count_shownWorking p s0.time (K + 1) hf, hK']

/-- **C20 (starts as soon as its dependencies allow).**  Setting as above.  If the task is still
NONE in `s` and its start gate is open in the updated state of this iteration (every FS
predecessor FINISHED, every SS predecessor started), then it is READY in that updated state and,
if the step is active, WORKING — not READY — at the end of this very iteration, already
performed once; if the step is inactive nothing starts: it ends the iteration READY with its
remaining work untouched, and starts at the next active step (`C20_iteration`, `C20_working`).
Conversely, while the gate is closed in the updated state it stays NONE with its remaining work
untouched. -/
theorem C20_starts (m : Model) (p : Params) (s : St) (t : Nat)
    (ht : t < m.nT) (ha : (m.task t).isAuto = true) (hc : (m.task t).comp = Option.none)
    (hg : ∀ e ∈ (m.task t).inputs, e.2 = .fs ∨ e.2 = .ss)
    (hnone : s.live.tstate t = .none) :
    (readyGate m (updated m s).live.tstate t = true →
      (updated m s).live.tstate t = .ready ∧
      (iter m p s).live.tstate t = (if activeAt p s.time = true then .working else .ready) ∧
      (iter m p s).live.rem t =
        s.live.rem t - (if activeAt p s.time = true then (m.task t).autoRate else 0)) ∧
    (readyGate m (updated m s).live.tstate t = false →
      (iter m p s).live.tstate t = .none ∧ (iter m p s).live.rem t = s.live.rem t) := by
  have h : SubTask m t := ⟨ht, ha, hc, hg⟩
  constructor
  · intro hgate
    have hu := (NoWait.update_ready_next m s.time s.live ht hnone hgate).1
    exact ⟨hu, iter_start h p s hu⟩
  · intro hgate
    exact iter_none p s hnone hgate

/-- while the task waits (it ends the iteration NONE or READY) its remaining work is untouched, so
the `D` of the theorems above is the work amount the task was initialised with
(`C02_init`: `default_work_amount × (1 − default_progress)`) -/
theorem C20_waiting (m : Model) (p : Params) (s : St) (t : Nat)
    (h : (iter m p s).live.tstate t = .none ∨ (iter m p s).live.tstate t = .ready) :
    (iter m p s).live.rem t = s.live.rem t :=
  iter_rem_keep p s h

/-- a READY task is still READY, with the same remaining work, after `__update` (so "READY in
`s0`" is a special case of the hypothesis `hstart` above) -/
theorem C20_ready_updated (m : Model) (s : St) (t : Nat) (h : s.live.tstate t = .ready) :
    (updated m s).live.tstate t = .ready ∧ (updated m s).live.rem t = s.live.rem t := by
  have := update_keep (m := m) s.time s.live (by rw [h]; exact fun e => by cases e)
    (by rw [h]; exact fun e => by cases e.1)
  exact ⟨this.1.trans h, this.2⟩

/-- FINISHED is kept by every iteration (C01: task states only move forward) -/
theorem C20_stays_finished (m : Model) (p : Params) (s : St) (t : Nat)
    (h : s.live.tstate t = .finished) (k : Nat) :
    (Nat.repeat (iter m p) k s).live.tstate t = .finished :=
  repeat_iter_inv p (I := fun l => l.tstate t = .finished)
    (fun time l => Lifecycle.Mono.finished (Lifecycle.update_mono m time l))
    (fun s => Lifecycle.Mono.finished (Lifecycle.stepBody_mono m p s)) h k

/-! ### a small run: two sub-project tasks in sequence, a project absence in the middle -/

namespace C20Ex

/-- task 0: a sub-project task of duration 3 at rate 2 (`n = ⌈3/2⌉ = 2`); task 1: a sub-project
task of duration 2 at rate 1 that may start when task 0 has finished -/
def mS : Model where
  nT := 2
  nW := 0
  nF := 0
  nTeam := 0
  nWp := 0
  nC := 0
  task := fun t =>
    if t = 0 then { name := 0, work := 3, autoRate := 2, isAuto := true, outputs := [(1, .fs)] }
    else { name := 1, work := 2, autoRate := 1, isAuto := true, inputs := [(0, .fs)] }
  worker := fun _ => {}
  fac := fun _ => {}
  team := fun _ => {}
  wp := fun _ => {}
  comp := fun _ => {}

/-- step 1 is a project absence; automatic tasks rest during absence -/
def pS : Params := { absence := [1], maxTime := 20 }

def sS : St := enter mS pS St.fresh

def at' (k : Nat) : St := Nat.repeat (iter mS pS) k sS

end C20Ex

open C20Ex in
/-- the hypotheses of `C20_working` / `C20_occupation` / `C20_log` hold for task 0 from `sS`
with `D = 3`, `r = 2`, `n = 2`, `K = 2` (the second active step is the one at time 2) -/
example : 0 < mS.nT ∧ (mS.task 0).isAuto = true ∧ (mS.task 0).comp = Option.none ∧
    (∀ e ∈ (mS.task 0).inputs, e.2 = .fs ∨ e.2 = .ss) ∧ 0 < (mS.task 0).autoRate ∧
    (updated mS sS).live.tstate 0 = .ready ∧ sS.live.rem 0 = 3 ∧ sS.time = 0 ∧
    ceilNat ((3 : Rat) / (mS.task 0).autoRate) = 2 ∧
    acts pS 0 2 < 2 ∧ acts pS 0 3 = 2 ∧ Elig.EligInv mS sS.live := by
  decide +kernel

open C20Ex in
/-- what the model computes: READY with 3; WORKING with 1 after step 0; still WORKING with 1
after the absence step 1; WORKING with −1 after step 2; FINISHED with 0 from then on — and task
1 starts in the very iteration in which task 0 is found FINISHED -/
example : ((List.range 6).map fun k => ((at' k).live.tstate 0, (at' k).live.rem 0)) =
      [(.ready, 3), (.working, 1), (.working, 1), (.working, -1), (.finished, 0), (.finished, 0)] ∧
    ((List.range 6).map fun k => ((at' k).live.tstate 1, (at' k).live.rem 1)) =
      [(.none, 2), (.none, 2), (.none, 2), (.none, 2), (.working, 1), (.working, 0)] ∧
    (at' 4).logs.tState 0 = [.working, .ready, .working, .finished] := by
  decide +kernel

open C20Ex in
/-- the same model when steps 0 and 2 are project absence steps (flag off): task 0 becomes READY
at the inactive step 0 and is NOT started there (`acts … 1 = 0`: READY with all its work after
iteration 1); it starts at step 1, rests at step 2, is performed a second time (`n = 2`) at step
3 (`K = 3`) and is FINISHED from iteration 5 on; the log shows READY, WORKING, READY, WORKING,
FINISHED -/
example :
    acts { absence := [0, 2], maxTime := 20 } 0 1 = 0 ∧
    acts { absence := [0, 2], maxTime := 20 } 0 3 < 2 ∧
    acts { absence := [0, 2], maxTime := 20 } 0 4 = 2 ∧
    ((List.range 6).map fun k =>
      ((Nat.repeat (iter mS { absence := [0, 2], maxTime := 20 }) k
          (enter mS { absence := [0, 2], maxTime := 20 } St.fresh)).live.tstate 0,
       (Nat.repeat (iter mS { absence := [0, 2], maxTime := 20 }) k
          (enter mS { absence := [0, 2], maxTime := 20 } St.fresh)).live.rem 0)) =
      [(.ready, 3), (.ready, 3), (.working, 1), (.working, 1), (.working, -1), (.finished, 0)] ∧
    (Nat.repeat (iter mS { absence := [0, 2], maxTime := 20 }) 5
        (enter mS { absence := [0, 2], maxTime := 20 } St.fresh)).logs.tState 0 =
      [.ready, .working, .ready, .working, .finished] := by
  decide +kernel

open C20Ex in
/-- the hypotheses of `C20_starts` for task 1 at the iteration that starts it -/
example : (at' 3).live.tstate 1 = .none ∧
    readyGate mS (updated mS (at' 3)).live.tstate 1 = true ∧
    readyGate mS (updated mS (at' 2)).live.tstate 1 = false := by
  decide +kernel

open C20Ex in
/-- the same model run without project absence (hypothesis `hact` of `C20_duration_no_absence`
via `C20_all_active`): WORKING after iterations 1 and 2 = `⌈3/2⌉`, FINISHED after the third -/
example : ({ maxTime := 20 } : Params).absence = [] ∧
    ((List.range 4).map fun k =>
      ((Nat.repeat (iter mS { maxTime := 20 }) k (enter mS { maxTime := 20 } St.fresh)).live.tstate 0,
       (Nat.repeat (iter mS { maxTime := 20 }) k (enter mS { maxTime := 20 } St.fresh)).live.rem 0)) =
      [(.ready, 3), (.working, 1), (.working, -1), (.finished, 0)] := by
  decide +kernel

/-- **C20 (steps).**  A task `t` of the parent model that is a sub-project task for the
simulator (automatic, no component, no finish-gated input), whose rate and work amount are those
of a configuration `cfg'` obtained by configuring from a SUCCESS result `res` (with or without
removing its absence steps) and relating it to the parent unit `parentUnit`
(`0 < parentUnit`, `0 < res.unit`, duration `> 0`).  From a state `s0` whose `__update` leaves
the task READY with its work amount as remaining work, let

    n = ⌈duration × res.unit / parentUnit⌉

and let iteration `K + 1` be the one in which the `n`-th active step happens.  Then the task is
WORKING at the end of exactly the iterations from the one of its first active step
(`1 ≤ acts … j`; before it, it waits in READY) to `K + 1` (so during exactly `n` active steps),
its remaining work after iteration `k + 1 ≤ K + 1` is `duration − acts · parentUnit / res.unit`,
and it is FINISHED with remaining work 0 from iteration `K + 2` on. -/
theorem C20_steps (m : Model) (p : Params) (s0 : St) (t : Nat)
    (ht : t < m.nT) (ha : (m.task t).isAuto = true) (hc : (m.task t).comp = Option.none)
    (hg : ∀ e ∈ (m.task t).inputs, e.2 = .fs ∨ e.2 = .ss)
    (cfg : SubCfg) (res : SubResult) (remove : Bool) (parentUnit : Rat)
    (hok : res.status = .success) (hpu : 0 < parentUnit) (hsu : 0 < res.unit)
    (hD : 0 < durationOf res remove)
    (hrate : (m.task t).autoRate = (relateSub (configureSub cfg res remove).1 parentUnit).rate)
    (hstart : (updated m s0).live.tstate t = .ready)
    (hrem : s0.live.rem t = (relateSub (configureSub cfg res remove).1 parentUnit).work)
    (K : Nat)
    (hK : acts p s0.time K < ceilNat ((durationOf res remove : Rat) * res.unit / parentUnit))
    (hK' : acts p s0.time (K + 1) = ceilNat ((durationOf res remove : Rat) * res.unit / parentUnit)) :
    (∀ j, 1 ≤ j → ((Nat.repeat (iter m p) j s0).live.tstate t = .working ↔
      1 ≤ acts p s0.time j ∧ j ≤ K + 1)) ∧
    (∀ k, k ≤ K → (Nat.repeat (iter m p) (k + 1) s0).live.rem t =
      (durationOf res remove : Rat) - (acts p s0.time (k + 1) : Rat) * (parentUnit / res.unit)) ∧
    (∀ j, K + 2 ≤ j → (Nat.repeat (iter m p) j s0).live.tstate t = .finished ∧
      (Nat.repeat (iter m p) j s0).live.rem t = 0) := by
  obtain ⟨hwork, hunit, _⟩ := C20_configured cfg res remove hok
  have hr' : (m.task t).autoRate = parentUnit / res.unit := by
    rw [hrate, (C20_rate _ parentUnit).1, hunit]
  have hrem' : s0.live.rem t = ((durationOf res remove : Nat) : Rat) := by
    rw [hrem, (C20_rate _ parentUnit).2.1, hwork]
  have hDr : (0 : Rat) < ((durationOf res remove : Nat) : Rat) := Rat.natCast_pos.mpr hD
  have hquot := C20_rate_quotient (configureSub cfg res remove).1 parentUnit hpu (hunit ▸ hsu)
  rw [← hrate, ← hrem, hrem', hwork, hunit] at hquot
  have hr : 0 < (m.task t).autoRate := hr' ▸ div_pos hpu hsu
  rw [← hquot] at hK hK'
  have hocc := C20_occupation m p s0 t ht ha hc hg hr hDr hstart hrem' K hK hK'
  refine ⟨hocc.2.1, ?_, hocc.2.2.2⟩
  intro k hk
  have := (C20_working m p s0 t ht ha hc hg hr hDr hstart hrem' k
    (Nat.lt_of_le_of_lt (acts_mono p s0.time hk) hK)).2.1
  rw [this, hr']

open C20Ex in
/-- the hypotheses of `C20_steps` for task 0 of the small run: the saved run `res` (5 steps, 2
of them absence) configured with removal gives duration 3; saved unit 3600 s, parent unit
7200 s, so rate 2 and `n = ⌈3 × 3600 / 7200⌉ = 2` -/
example : res.status = .success ∧ (0 : Rat) < 7200 ∧ 0 < res.unit ∧ 0 < durationOf res true ∧
    (mS.task 0).autoRate = (relateSub (configureSub cfg0 res true).1 7200).rate ∧
    sS.live.rem 0 = (relateSub (configureSub cfg0 res true).1 7200).work ∧
    ceilNat ((durationOf res true : Rat) * res.unit / 7200) = 2 := by
  decide +kernel

end PDesy

#print axioms PDesy.C20_refused
#print axioms PDesy.C20_configured
#print axioms PDesy.C20_duration_keep
#print axioms PDesy.C20_duration_remove
#print axioms PDesy.C20_duration_steps
#print axioms PDesy.C20_duration_remove_nodup
#print axioms PDesy.C20_rate
#print axioms PDesy.C20_rate_quotient
#print axioms PDesy.C20_ceilNat_def
#print axioms PDesy.C20_ceil
#print axioms PDesy.C20_iteration
#print axioms PDesy.C20_trace
#print axioms PDesy.C20_time
#print axioms PDesy.C20_working
#print axioms PDesy.C20_occupation
#print axioms PDesy.C20_occupation_ends
#print axioms PDesy.C20_duration_no_absence
#print axioms PDesy.C20_all_active
#print axioms PDesy.C20_no_worker
#print axioms PDesy.C20_log
#print axioms PDesy.C20_starts
#print axioms PDesy.C20_waiting
#print axioms PDesy.C20_ready_updated
#print axioms PDesy.C20_stays_finished
#print axioms PDesy.C20_steps
