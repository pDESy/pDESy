/-
  PDesy.Props.C05LiveGate — liveness half of C05 ("every feasible project completes") WITH
  finish-to-finish and start-to-finish links.

  PROPERTY (C05, liveness): a project whose dependency graph is acyclic and in which every
  non-automatic unfinished task has an eligible worker who is eventually present (for
  finish-to-finish and start-to-finish links: a worker of its own) completes successfully whenever
  `max_time` exceeds the total sequential work bound.

  `Props/C05Live.lean` proves it for FS/SS links only (fragment L) and refutes it for FF/SF links
  with a SHARED worker: a task that has done its work but waits at its finish gate stays WORKING
  and keeps its workers.  This file proves the FF/SF case under the property's own premise.

  PROVED for fragment LG (`LiveG.FragLG m rk R`, Lemmas/Live.lean) = fragment L with ALL FOUR link
  kinds in the acyclic in-range graph, where the worker `w` relied upon for a non-automatic task `t`
  is such that every OTHER task `w` is eligible for has no FF/SF input.  A worker of `t`'s own
  (eligible for no other task) satisfies this; so does ANY eligible worker when no task has an
  FF/SF input (so L ⊆ LG, `C05_live_gates_extends_L`).  This is weaker than "a worker of its own
  for every task with an FF/SF input": the worker of a gated task may also serve tasks without
  finish gate, and own workers may be individually absent.  The conclusion and the bound are those
  of fragment L — waiting at a finish gate costs nothing extra, because while one task waits some
  rank-minimal unfinished task advances.  `LiveG.GatesOwn` (`C05_live_gates`) and `LiveG.DedG`
  (`C05_live_gates_dedicated`) are the instances with a worker of its own for every gated task,
  resp. a never-absent worker of its own for every non-automatic task.

  A PREMISE THAT CANNOT BE DROPPED (`C05_live_gates_counterexample_shared`): "every task with an
  FF/SF input has a worker of its own, every other task has an eligible never-absent worker" is
  NOT enough.  The gated task may ALSO be eligible for the shared worker the other task relies
  upon, take it, and hold it at its finish gate for ever.  Hence the clause "eligible for no
  (other) task with an FF/SF input" in `served`.

  Still outside (see `C05Live.lean`): facilities / components, automatic tasks bound to a
  component, links outside `0 … nT-1`, cyclic graphs, `autoRate ≤ 0`.

  The theorems instantiate `mu_iter_lt`, `loop_success`, `simulate_success`, `simulate_success_zero`
  (Lemmas/Live), for the instances through `GatesOwn.toLG`, `DedG.toLG` (Lemmas/LiveGate).
-/
import PDesy.Props.C05Live

namespace PDesy
open Live_ LiveG Elig

/-- **C05 (liveness with finish gates, measure).**  In fragment LG the measure of
`C05_live_measure` still decreases with every iteration that does not exit through SUCCESS, and the
invariants are preserved.  (A task waiting at a closed finish gate contributes the constant 1; the
decrease comes from a rank-minimal unfinished task, whose gates are all open, or from the task
holding its worker.) -/
theorem C05_live_gates_measure (m : Model) (rk : Nat → Nat) (R : Nat → Bool) (p : Params)
    (hF : FragLG m rk R) (s : St) (hI : Inv m s.live)
    (hnf : allFinished m (updated m s).live = false) :
    mu m p R (iter m p s) + 1 ≤ mu m p R s ∧ Inv m (iter m p s).live :=
  ⟨mu_iter_lt hF hI hnf, Inv_iter p hI⟩

/-- **C05 (liveness with finish gates, loop level).**  `C05_live_loop` for fragment LG. -/
theorem C05_live_gates_loop (m : Model) (rk : Nat → Nat) (R : Nat → Bool) (p : Params)
    (hF : FragLG m rk R) (n fuel : Nat) (s : St) (hI : Inv m s.live) (hmu : mu m p R s ≤ n)
    (htime : s.time + n ≤ p.maxTime) (hfuel : n + 1 ≤ fuel) :
    (loop m p fuel s).status = .success ∧ (loop m p fuel s).time ≤ s.time + n ∧
    allFinished m (loop m p fuel s).live = true :=
  loop_success hF n fuel s hI hmu htime hfuel

/-- **C05 (liveness with finish gates, any set of relied-upon workers).**  In fragment LG, a run
with `initialize_state_info = True` whose `max_time` leaves room for `bound m p R` steps after the time
the loop is entered returns SUCCESS, every task FINISHED, at most `bound m p R` steps later. -/
theorem C05_live_gates_relied (m : Model) (rk : Nat → Nat) (R : Nat → Bool) (p : Params) (s : St)
    (hF : FragLG m rk R) (hs : p.initState = true)
    (hb : (enter m p s).time + bound m p R ≤ p.maxTime) :
    (simulate m p s).status = .success ∧
    (simulate m p s).time ≤ (enter m p s).time + bound m p R ∧
    allFinished m (simulate m p s).live = true :=
  simulate_success hF s hs hb

/-- **C05 (liveness with finish gates, fragment LG).**  Every worker relied upon: a run with
`initialize_state_info = initialize_log_info = True` and
`max_time ≥ |p.absence| + Σ_w |absence w| + Σ_t (3 + ⌈rem₀ t / δ_t⌉)` returns SUCCESS with every
task FINISHED, at a time no later than that bound.  Workers may be solo and individually absent. -/
theorem C05_live_gates_general (m : Model) (rk : Nat → Nat) (p : Params) (s : St)
    (hF : FragLG m rk (fun _ => true)) (hs : p.initState = true) (hl : p.initLog = true)
    (hb : bound m p (fun _ => true) ≤ p.maxTime) :
    (simulate m p s).status = .success ∧
    (simulate m p s).time ≤ bound m p (fun _ => true) ∧
    allFinished m (simulate m p s).live = true :=
  simulate_success_zero hF s hs hl hb

/-- **C05 (liveness, FF/SF links with a worker of one's own).**  Mixed fragment
`GatesOwn m rk R d`: as LG, where
  * every non-automatic task `t` that has an FF or SF input has a worker `d t` of its own: of the
    organisation, relied upon, eligible for `t`, eligible for no other task;
  * every non-automatic task without FF/SF input has, as in fragment L, an eligible relied-upon
    worker, which may be shared with other tasks without FF/SF input (but is eligible for no task
    with an FF/SF input).
Then a run with `initialize_state_info = initialize_log_info = True` and `max_time ≥ bound m p R` returns
SUCCESS with every task FINISHED at a time `≤ bound m p R`. -/
theorem C05_live_gates (m : Model) (rk : Nat → Nat) (R : Nat → Bool) (d : Nat → Nat) (p : Params)
    (s : St) (hG : GatesOwn m rk R d) (hs : p.initState = true) (hl : p.initLog = true)
    (hb : bound m p R ≤ p.maxTime) :
    (simulate m p s).status = .success ∧
    (simulate m p s).time ≤ bound m p R ∧
    allFinished m (simulate m p s).live = true :=
  simulate_success_zero hG.toLG s hs hl hb

/-- **C05 (liveness, all link kinds, dedicated workers).**  Fragment `DedG m rk d`: as LG, no solo
worker, and every non-automatic task `t` has a worker `d t` of its own — eligible for `t`, never
individually absent, eligible for no other task.  Then
`max_time ≥ |p.absence| + Σ_t (3 + ⌈rem₀ t / δ_t⌉)` gives SUCCESS with every task FINISHED within
that bound. -/
theorem C05_live_gates_dedicated (m : Model) (rk d : Nat → Nat) (p : Params) (s : St)
    (hD : DedG m rk d) (hs : p.initState = true) (hl : p.initLog = true)
    (hb : seqBound m p ≤ p.maxTime) :
    (simulate m p s).status = .success ∧
    (simulate m p s).time ≤ seqBound m p ∧
    allFinished m (simulate m p s).live = true := by
  rw [← bound_neverAbsent] at hb ⊢
  exact simulate_success_zero hD.toLG s hs hl hb

/-- fragment L (FS/SS links only) is the sub-fragment of LG without FF/SF links: the statements
above contain those of `C05Live.lean` -/
theorem C05_live_gates_extends_L (m : Model) (rk : Nat → Nat) (R : Nat → Bool)
    (hF : FragL m rk R) : FragLG m rk R := hF.toLG

namespace C05LiveGateEx

/-- four tasks, every non-automatic one with a worker of its own (worker `t` for task `t`):
0 (work 3) —FF→ 1 (work 1): task 1 has done its work after one step and waits, WORKING, until
task 0 is FINISHED;  0 —FS→ 3 (automatic, work 1, rate 1/2) —SF→ 2 (work 1, skill 1/2): task 2
has done its work after two steps and waits until task 3 has started, which needs task 0 -/
def mGD : Model where
  nT := 4
  nW := 3
  nF := 0
  nTeam := 3
  nWp := 0
  nC := 0
  task := fun t =>
    if t = 0 then { name := 0, work := 3, outputs := [(1, .ff), (3, .fs)] }
    else if t = 1 then { name := 1, work := 1, inputs := [(0, .ff)] }
    else if t = 2 then { name := 2, work := 1, inputs := [(3, .sf)] }
    else { name := 3, work := 1, isAuto := true, autoRate := 1/2, inputs := [(0, .fs)],
           outputs := [(2, .sf)] }
  worker := fun w =>
    if w = 0 then { team := 0, skills := [(0, 1)] }
    else if w = 1 then { team := 1, skills := [(1, 1)] }
    else { team := 2, skills := [(2, 1/2)] }
  fac := fun _ => {}
  team := fun tm => if tm = 0 then { workers := [0], targets := [0] }
    else if tm = 1 then { workers := [1], targets := [1] } else { workers := [2], targets := [2] }
  wp := fun _ => {}
  comp := fun _ => {}

/-- ranks: 0 ↦ 0, 1 ↦ 1, 3 ↦ 1, 2 ↦ 2 -/
def rkG (t : Nat) : Nat := if t = 0 then 0 else if t = 2 then 2 else 1

def pG : Params := { maxTime := 25 }

theorem mGD_ded : DedG mGD rkG id where
  noFac := by decide +kernel
  autoNoComp := by decide +kernel
  graph := by decide +kernel
  autoRate := by decide +kernel
  noSolo := by decide +kernel
  ded := by decide +kernel
  excl := by decide +kernel

/-- the run of `mGD` under `pG`, evaluated once -/
theorem mGD_run :
    (simulate mGD pG St.fresh).status = .success ∧ (simulate mGD pG St.fresh).time = 5 ∧
    ((runTrace mGD pG St.fresh).map fun s =>
      (s.time, s.live.tstate 0, s.live.tstate 1, s.live.tstate 2, s.live.tstate 3)) =
    [(1, .working, .working, .working, .none), (2, .working, .working, .working, .none),
     (3, .working, .working, .working, .none), (4, .finished, .finished, .working, .working),
     (5, .finished, .finished, .finished, .working)] ∧
    ((runTrace mGD pG St.fresh).map fun s =>
      (s.live.rem 1, s.live.rem 2, s.live.allocW 1, s.live.allocW 2)) =
    [(0, 1/2, [1], [2]), (-1, 0, [1], [2]), (-2, -1/2, [1], [2]), (0, -1, [], [2]),
     (0, 0, [], [])] := by
  simp only [Fast.simulate_fast, Fast.runTrace_fast]; decide +kernel

/-- (3+3) + (3+1) + (3+2) + (3+2) -/
theorem mGD_bound : seqBound mGD pG = 20 := by decide +kernel

/-- the same project plus task 4 (work 2, no link) which SHARES worker 0 with task 0 (both without
FF/SF input); the own worker 1 of the gated task 1 is absent at steps 0 and 1 -/
def mGM : Model where
  nT := 5
  nW := 3
  nF := 0
  nTeam := 3
  nWp := 0
  nC := 0
  task := fun t =>
    if t = 0 then { name := 0, work := 3, outputs := [(1, .ff), (3, .fs)] }
    else if t = 1 then { name := 1, work := 1, inputs := [(0, .ff)] }
    else if t = 2 then { name := 2, work := 1, inputs := [(3, .sf)] }
    else if t = 3 then { name := 3, work := 1, isAuto := true, autoRate := 1/2,
                         inputs := [(0, .fs)], outputs := [(2, .sf)] }
    else { name := 4, work := 2 }
  worker := fun w =>
    if w = 0 then { team := 0, skills := [(0, 1), (4, 1)] }
    else if w = 1 then { team := 1, skills := [(1, 1)], absence := [0, 1] }
    else { team := 2, skills := [(2, 1/2)] }
  fac := fun _ => {}
  team := fun tm => if tm = 0 then { workers := [0], targets := [0, 4] }
    else if tm = 1 then { workers := [1], targets := [1] } else { workers := [2], targets := [2] }
  wp := fun _ => {}
  comp := fun _ => {}

def pM : Params := { absence := [2], maxTime := 30 }

theorem mGM_own : GatesOwn mGM rkG (fun _ => true) id where
  noFac := by decide +kernel
  autoNoComp := by decide +kernel
  graph := by decide +kernel
  autoRate := by decide +kernel
  solo := by decide +kernel
  -- the gated tasks are 1 and 2 (as one `decide` the nested bounded quantifiers of `own` and
  -- `served` exceed the default size limit of instance synthesis)
  own := by
    intro t ht ha hg
    have h12 : t = 1 ∨ t = 2 := by revert t; decide +kernel
    rcases h12 with rfl | rfl <;> decide +kernel
  -- the others are 0 and 4, both served by worker 0
  served := by
    intro t ht ha hg
    have h04 : t = 0 ∨ t = 4 := by revert t; decide +kernel
    rcases h04 with rfl | rfl <;> exact ⟨0, by decide +kernel⟩

theorem mGM_run :
    (simulate mGM pM St.fresh).status = .success ∧ (simulate mGM pM St.fresh).time = 6 := by
  simp only [Fast.simulate_fast]; decide +kernel

/-- 1 project absence step + 2 absence steps of worker 1 + (3+3) + (3+1) + (3+2) + (3+2) + (3+2) -/
theorem mGM_bound : bound mGM pM (fun _ => true) = 28 := by decide +kernel

end C05LiveGateEx

/-- premises of `C05_live_gates_dedicated` on a project with an FF and an SF link: the fragment,
the flags, the links are really there, the bound (`C05LiveGateEx.mGD_bound`) is 20 ≤ 25, and the run
indeed succeeds (at time 5) -/
example : DedG C05LiveGateEx.mGD C05LiveGateEx.rkG id ∧
    C05LiveGateEx.pG.initState = true ∧ C05LiveGateEx.pG.initLog = true ∧
    (0, Dep.ff) ∈ (C05LiveGateEx.mGD.task 1).inputs ∧
    (3, Dep.sf) ∈ (C05LiveGateEx.mGD.task 2).inputs ∧
    seqBound C05LiveGateEx.mGD C05LiveGateEx.pG = 20 ∧
    seqBound C05LiveGateEx.mGD C05LiveGateEx.pG ≤ C05LiveGateEx.pG.maxTime ∧
    (simulate C05LiveGateEx.mGD C05LiveGateEx.pG St.fresh).status = .success ∧
    (simulate C05LiveGateEx.mGD C05LiveGateEx.pG St.fresh).time = 5 :=
  ⟨C05LiveGateEx.mGD_ded, rfl, rfl, by decide +kernel, by decide +kernel, C05LiveGateEx.mGD_bound,
   by rw [C05LiveGateEx.mGD_bound]; decide, C05LiveGateEx.mGD_run.1, C05LiveGateEx.mGD_run.2.1⟩

/-- … and what the theorem gives for it -/
example : (simulate C05LiveGateEx.mGD C05LiveGateEx.pG St.fresh).status = .success ∧
    (simulate C05LiveGateEx.mGD C05LiveGateEx.pG St.fresh).time ≤ 20 := by
  have h := C05_live_gates_dedicated C05LiveGateEx.mGD C05LiveGateEx.rkG id C05LiveGateEx.pG
    St.fresh C05LiveGateEx.mGD_ded rfl rfl (by rw [C05LiveGateEx.mGD_bound]; decide)
  rw [C05LiveGateEx.mGD_bound] at h
  exact ⟨h.1, h.2.1⟩

/-- the finish gates really bind in that run: task 1 is WORKING with remaining work 0, −1, −2
while it waits for task 0 (FF), task 2 is WORKING with remaining work 0, −1/2, −1 while it waits
for task 3 to start (SF); both keep their workers all the time -/
example : ((runTrace C05LiveGateEx.mGD C05LiveGateEx.pG St.fresh).map fun s =>
      (s.time, s.live.tstate 0, s.live.tstate 1, s.live.tstate 2, s.live.tstate 3)) =
    [(1, .working, .working, .working, .none), (2, .working, .working, .working, .none),
     (3, .working, .working, .working, .none), (4, .finished, .finished, .working, .working),
     (5, .finished, .finished, .finished, .working)] ∧
    ((runTrace C05LiveGateEx.mGD C05LiveGateEx.pG St.fresh).map fun s =>
      (s.live.rem 1, s.live.rem 2, s.live.allocW 1, s.live.allocW 2)) =
    [(0, 1/2, [1], [2]), (-1, 0, [1], [2]), (-2, -1/2, [1], [2]), (0, -1, [], [2]),
     (0, 0, [], [])] :=
  C05LiveGateEx.mGD_run.2.2

/-- premises of `C05_live_gates` (and of `C05_live_gates_general`, `C05_live_gates_relied`) on the
mixed project: own workers for the gated tasks 1 and 2 (worker 1 individually absent at steps 0
and 1), worker 0 shared by the ungated tasks 0 and 4, a project absence step; the bound
(`C05LiveGateEx.mGM_bound`) is 28 ≤ 30, and the run succeeds (at time 6) -/
example : GatesOwn C05LiveGateEx.mGM C05LiveGateEx.rkG (fun _ => true) id ∧
    FragLG C05LiveGateEx.mGM C05LiveGateEx.rkG (fun _ => true) ∧
    WorkerElig C05LiveGateEx.mGM 0 0 ∧ WorkerElig C05LiveGateEx.mGM 4 0 ∧
    bound C05LiveGateEx.mGM C05LiveGateEx.pM (fun _ => true) = 28 ∧
    bound C05LiveGateEx.mGM C05LiveGateEx.pM (fun _ => true) ≤ C05LiveGateEx.pM.maxTime ∧
    (simulate C05LiveGateEx.mGM C05LiveGateEx.pM St.fresh).status = .success ∧
    (simulate C05LiveGateEx.mGM C05LiveGateEx.pM St.fresh).time = 6 :=
  ⟨C05LiveGateEx.mGM_own, C05LiveGateEx.mGM_own.toLG, by decide +kernel, by decide +kernel,
   C05LiveGateEx.mGM_bound, by rw [C05LiveGateEx.mGM_bound]; decide, C05LiveGateEx.mGM_run⟩

/-- … and what the theorem gives for it -/
example : (simulate C05LiveGateEx.mGM C05LiveGateEx.pM St.fresh).status = .success :=
  (C05_live_gates C05LiveGateEx.mGM C05LiveGateEx.rkG (fun _ => true) id C05LiveGateEx.pM St.fresh
    C05LiveGateEx.mGM_own rfl rfl (by rw [C05LiveGateEx.mGM_bound]; decide)).1

/-- premises of `C05_live_gates_measure` / `C05_live_gates_loop` at the state the run enters its
loop with: invariants, an unfinished task; the measure there is within the bound -/
example : Inv C05LiveGateEx.mGD (enter C05LiveGateEx.mGD C05LiveGateEx.pG St.fresh).live ∧
    allFinished C05LiveGateEx.mGD
      (updated C05LiveGateEx.mGD (enter C05LiveGateEx.mGD C05LiveGateEx.pG St.fresh)).live = false ∧
    mu C05LiveGateEx.mGD C05LiveGateEx.pG (neverAbsent C05LiveGateEx.mGD)
      (enter C05LiveGateEx.mGD C05LiveGateEx.pG St.fresh) ≤ 20 :=
  ⟨C05_live_inv_enter _ _ _ rfl, by decide +kernel, by decide +kernel⟩

/-- premises of `C05_live_gates_extends_L`: the shared-worker project of `C05Live.lean` -/
example : FragLG C05LiveEx.mL id (fun _ => true) :=
  C05_live_gates_extends_L _ _ _ C05LiveEx.mL_frag

namespace C05LiveGateEx

/-- task 1 (work 1) must FINISH after task 0 (work 5) has finished (FF).  Worker 1 is task 1's own
(no skill for task 0); worker 0 can do both tasks and is the only one who can do task 0 -/
def mSh : Model where
  nT := 2
  nW := 2
  nF := 0
  nTeam := 1
  nWp := 0
  nC := 0
  task := fun t =>
    if t = 0 then { name := 0, work := 5, outputs := [(1, .ff)] }
    else { name := 1, work := 1, inputs := [(0, .ff)] }
  worker := fun w =>
    if w = 0 then { team := 0, skills := [(0, 1), (1, 1)] } else { team := 0, skills := [(1, 1)] }
  fac := fun _ => {}
  team := fun _ => { workers := [0, 1], targets := [0, 1] }
  wp := fun _ => {}
  comp := fun _ => {}

end C05LiveGateEx

/-- **Counterexample: a worker of its own for the gated task is not enough when the other tasks
only keep the premise of fragment L.**  In `mSh` the graph is acyclic, nobody is ever absent, the
only task with an FF/SF input (task 1) has a worker of its own (worker 1: eligible for task 1,
for no other task), and the other task (task 0, no FF/SF input) has an eligible worker (worker 0)
— but worker 0 is also eligible for the gated task 1.  Under the SPT rule task 1 is served first
and takes both workers; after one step it has no work left, waits for task 0 (FF), stays WORKING
and keeps both workers (remaining work −23 at time 12), so task 0 never starts: FAILURE, whatever
`max_time` (here 12; the sequential work is 6).  With the default TSLACK rule the run succeeds.
So in `FragLG.served` / `GatesOwn.served` the worker relied upon for a task must be eligible for
no other task that has an FF/SF input.  Replayed on the real pDESy (`/repo`): SPT gives status
FAILURE at time 12, A READY, B WORKING with remaining work −23.0 and workers [w1, w0]; TSLACK
gives SUCCESS at time 5. -/
theorem C05_live_gates_counterexample_shared :
    (∀ t, t < C05LiveGateEx.mSh.nT → ∀ e ∈ (C05LiveGateEx.mSh.task t).inputs, e.1 < t) ∧
    (∀ t, t < C05LiveGateEx.mSh.nT → (C05LiveGateEx.mSh.task t).needFac = false ∧
      (C05LiveGateEx.mSh.task t).isAuto = false) ∧
    (∀ w, w < C05LiveGateEx.mSh.nW → (C05LiveGateEx.mSh.worker w).absence = [] ∧
      (C05LiveGateEx.mSh.worker w).solo = false) ∧
    -- the gated task 1 has a worker of its own
    (¬ Auto.NoFinDeps C05LiveGateEx.mSh 1 ∧ WorkerElig C05LiveGateEx.mSh 1 1 ∧
      ∀ t', t' < C05LiveGateEx.mSh.nT → t' ≠ 1 → ¬ WorkerElig C05LiveGateEx.mSh t' 1) ∧
    -- the ungated task 0 has an eligible worker (premise of fragment L)
    (Auto.NoFinDeps C05LiveGateEx.mSh 0 ∧ WorkerElig C05LiveGateEx.mSh 0 0) ∧
    -- … which is eligible for the gated task too
    WorkerElig C05LiveGateEx.mSh 1 0 ∧
    (simulate C05LiveGateEx.mSh { rule := .spt, maxTime := 12 } St.fresh).status = .failure ∧
    (simulate C05LiveGateEx.mSh { rule := .spt, maxTime := 12 } St.fresh).live.tstate 0 = .ready ∧
    (simulate C05LiveGateEx.mSh { rule := .spt, maxTime := 12 } St.fresh).live.tstate 1 = .working ∧
    (simulate C05LiveGateEx.mSh { rule := .spt, maxTime := 12 } St.fresh).live.rem 1 = -23 ∧
    (simulate C05LiveGateEx.mSh { rule := .spt, maxTime := 12 } St.fresh).live.allocW 1 = [1, 0] ∧
    (simulate C05LiveGateEx.mSh { rule := .tslack, maxTime := 12 } St.fresh).status = .success := by
  simp only [Fast.simulate_fast]; decide +kernel

end PDesy

#print axioms PDesy.C05_live_gates_measure
#print axioms PDesy.C05_live_gates_loop
#print axioms PDesy.C05_live_gates_relied
#print axioms PDesy.C05_live_gates_general
#print axioms PDesy.C05_live_gates
#print axioms PDesy.C05_live_gates_dedicated
#print axioms PDesy.C05_live_gates_extends_L
#print axioms PDesy.C05_live_gates_counterexample_shared
