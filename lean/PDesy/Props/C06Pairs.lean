/-
  PDesy.Props.C06Pairs — property C06 ("no avoidable waiting"), clause (c), in its
  worker–facility-PAIR form, for tasks that need a facility.

  `Props/C06.lean` proves clause (c) — "no worker stays FREE while a READY or WORKING task exists
  that the worker is eligible for and that can still accept the worker" — for tasks without
  facility.  A task that needs a facility takes its resources in pairs (`allocPairs`): for the
  workplace `p` where its component is placed, each FREE facility of `p` that has the skill and
  whose workplace is assigned to the task is offered, in order, the first eligible free worker the
  task can accept together with it.  The pair form says:

    at the end of the allocation pass (of a working step) there is no FREE, unassigned worker `w`
    and FREE facility `f` of the workplace where the component of a READY/WORKING facility-needing
    task `t` sits, such that both are eligible for `t` and `t` can still accept the pair
    (`can_add_resources(worker=w, facility=f)`, `canAdd m l' t (some w) (some f)`).

  It is claimed, and proved, for components that carry a single task (`(m.comp c).tasks = [t]`,
  with consistent task → component links): such a component is moved only at `t`'s own turn, so
  `allocPairs` ran at the workplace where the component is found after the pass.  For a component
  with several tasks the statement is false (`C06PairsEx.mM` below: a later task of the component
  moves it after the turn of the first).

  "Eligible": the worker has a positive skill for the task and its team is assigned to the task
  (`teamTargets`); the facility has a positive skill for the task and its workplace is assigned to
  the task (`wpTargets`).

  Each theorem instantiates `allocate_idle` or `stepBody_idle` (Lemmas/NoWait) at `Offered.pair`;
  `stepBody_offered` reads the offer at the end of a step back to the pass.
-/
import PDesy.Lemmas.NoWait

namespace PDesy

/-- **C06 (c), pair form**, for one allocation pass.  Let `l' = allocate m lg rule l`.
A READY or WORKING task `t < nT` that is not automatic, needs a facility and is the single task of
its component `c` (`hlink`: every task below `nT` that names `c` as its component is listed by
`c`; `hsingle`: `c` lists `t` only), `c` placed at workplace `p` in `l'`.  A worker `w < nW` that
is FREE and holds nothing in `l'`, a facility `f` of `p` that is FREE in `l'`.  Then it is NOT the
case that `f` and `w` are eligible for `t` (skills, workplace / team assigned to the task) and `t`
can still accept the pair.

No invariant of the incoming state is needed.  Neither `f < nF` nor `l'.fasg f = []` is needed: a
facility listed by `p` is offered whatever its index, and an assigned facility is refused by
`canAdd` anyway. -/
theorem C06_idle_pair (m : Model) (lg : Logs) (rule : TaskRule) (l : Live) (w t c p f : Nat)
    (hw : w < m.nW) (hfree : (allocate m lg rule l).wstate w = .free)
    (hidle : (allocate m lg rule l).wasg w = [])
    (hff : (allocate m lg rule l).fstate f = .free)
    (ht : t < m.nT) (hs : l.tstate t = .ready ∨ l.tstate t = .working)
    (hna : (m.task t).isAuto = false) (hnf : (m.task t).needFac = true)
    (hc : (m.task t).comp = some c)
    (hlink : ∀ t', t' < m.nT → (m.task t').comp = some c → t' ∈ (m.comp c).tasks)
    (hsingle : (m.comp c).tasks = [t])
    (hp : (allocate m lg rule l).placed c = some p) (hf : f ∈ (m.wp p).facs) :
    ¬ (hasSkill (m.fac f).skills (m.task t).name = true ∧ wpTargets m f t = true ∧
       hasSkill (m.worker w).skills (m.task t).name = true ∧ teamTargets m w t = true ∧
       canAdd m (allocate m lg rule l) t (some w) (some f) = true) := by
  rintro ⟨h1, h2, h3, h4, h5⟩
  rw [NoWait.allocate_idle m lg rule l hw hfree hidle ht hs hna
    (.pair hnf hc (.of_tasks hlink hsingle) hp hf hff h1 h2) h3 h4] at h5
  cases h5

/-- `C06_idle_pair` for a model that satisfies the placement well-formedness predicate `PlaceWF`
(flat product, consistent task → component links, …). -/
theorem C06_idle_pair_wf (m : Model) (wf : Place.PlaceWF m) (lg : Logs) (rule : TaskRule) (l : Live)
    (w t c p f : Nat)
    (hw : w < m.nW) (hfree : (allocate m lg rule l).wstate w = .free)
    (hidle : (allocate m lg rule l).wasg w = [])
    (hff : (allocate m lg rule l).fstate f = .free)
    (ht : t < m.nT) (hs : l.tstate t = .ready ∨ l.tstate t = .working)
    (hna : (m.task t).isAuto = false) (hnf : (m.task t).needFac = true)
    (hc : (m.task t).comp = some c) (hsingle : (m.comp c).tasks = [t])
    (hp : (allocate m lg rule l).placed c = some p) (hf : f ∈ (m.wp p).facs) :
    ¬ (hasSkill (m.fac f).skills (m.task t).name = true ∧ wpTargets m f t = true ∧
       hasSkill (m.worker w).skills (m.task t).name = true ∧ teamTargets m w t = true ∧
       canAdd m (allocate m lg rule l) t (some w) (some f) = true) := by
  rintro ⟨h1, h2, h3, h4, h5⟩
  rw [NoWait.allocate_idle m lg rule l hw hfree hidle ht hs hna
    (.pair hnf hc (.of_wf wf hsingle) hp hf hff h1 h2) h3 h4] at h5
  cases h5

/-- **C06 (c), pair form**, at the end of a working step.  Starting the step from a state that
satisfies the allocation invariant (with every holder WORKING): a worker `w < nW` and a facility
`f < nF` that are FREE at the end of the step, a task `t < nT` that is READY or WORKING at the end
of the step, not automatic, needing a facility, the single task of its component `c`, which is
placed at `p` at the end of the step, `f` a facility of `p`: NOT (`f` and `w` eligible for `t`
and `t` can still accept the pair).  (A FREE worker / facility holds nothing at the end of a
working step, by C03.) -/
theorem C06_idle_pair_step (m : Model) (p : Params) (s : St)
    (hwork : p.absence.contains s.time = false)
    (hinv : AllocInv m s.live) (hhw : HoldWorking s.live) (w t c q f : Nat)
    (hw : w < m.nW) (hfree : (stepBody m p s).live.wstate w = .free)
    (hfl : f < m.nF) (hff : (stepBody m p s).live.fstate f = .free)
    (ht : t < m.nT)
    (hs : (stepBody m p s).live.tstate t = .ready ∨ (stepBody m p s).live.tstate t = .working)
    (hna : (m.task t).isAuto = false) (hnf : (m.task t).needFac = true)
    (hc : (m.task t).comp = some c)
    (hlink : ∀ t', t' < m.nT → (m.task t').comp = some c → t' ∈ (m.comp c).tasks)
    (hsingle : (m.comp c).tasks = [t])
    (hp : (stepBody m p s).live.placed c = some q) (hf : f ∈ (m.wp q).facs) :
    ¬ (hasSkill (m.fac f).skills (m.task t).name = true ∧ wpTargets m f t = true ∧
       hasSkill (m.worker w).skills (m.task t).name = true ∧ teamTargets m w t = true ∧
       canAdd m (stepBody m p s).live t (some w) (some f) = true) := by
  rintro ⟨h1, h2, h3, h4, h5⟩
  rw [NoWait.stepBody_idle m p s hwork hinv hhw hw hfree ht hs hna
    (NoWait.stepBody_offered m p s hwork hinv hhw (fun _ e => Option.some.inj e ▸ hfl)
      (.pair hnf hc (.of_tasks hlink hsingle) hp hf hff h1 h2)) h3 h4] at h5
  cases h5

/-- **C06 (c), pair form**, at every `ticked` state of the loop that was produced by a working
step, starting from a state that satisfies the allocation invariant. -/
theorem C06_idle_pair_trace (m : Model) (p : Params) (fuel : Nat) (s : St)
    (h : AllocInv m s.live ∧ HoldWorking s.live) :
    ∀ s' ∈ trace m p fuel s, workingAt p (s'.time - 1) = true →
      ∀ w t c q f, w < m.nW → s'.live.wstate w = .free → f < m.nF → s'.live.fstate f = .free →
        t < m.nT → (s'.live.tstate t = .ready ∨ s'.live.tstate t = .working) →
        (m.task t).isAuto = false → (m.task t).needFac = true → (m.task t).comp = some c →
        (∀ t', t' < m.nT → (m.task t').comp = some c → t' ∈ (m.comp c).tasks) →
        (m.comp c).tasks = [t] → s'.live.placed c = some q → f ∈ (m.wp q).facs →
        ¬ (hasSkill (m.fac f).skills (m.task t).name = true ∧ wpTargets m f t = true ∧
           hasSkill (m.worker w).skills (m.task t).name = true ∧ teamTargets m w t = true ∧
           canAdd m s'.live t (some w) (some f) = true) := by
  intro s' hs' hwk w t c q f hw hfree hfl hff ht hst hna hnf hc hlink hsingle hp hf
  obtain ⟨s0, hinv, hwork, rfl⟩ := (AllocInv_loopInv m p).trace_work h fuel s' hs' hwk
  exact C06_idle_pair_step m p (updated m s0) hwork hinv.1 hinv.2 w t c q f hw hfree hfl hff ht hst
    hna hnf hc hlink hsingle hp hf

/-- **C06 (c), pair form**, at every `ticked` state of `simulate m p s` produced by a working
step, for a run with `initialize_state_info=True` from ANY state `s`. -/
theorem C06_idle_pair_run (m : Model) (p : Params) (s : St) (hp : p.initState = true) :
    ∀ s' ∈ runTrace m p s, workingAt p (s'.time - 1) = true →
      ∀ w t c q f, w < m.nW → s'.live.wstate w = .free → f < m.nF → s'.live.fstate f = .free →
        t < m.nT → (s'.live.tstate t = .ready ∨ s'.live.tstate t = .working) →
        (m.task t).isAuto = false → (m.task t).needFac = true → (m.task t).comp = some c →
        (∀ t', t' < m.nT → (m.task t').comp = some c → t' ∈ (m.comp c).tasks) →
        (m.comp c).tasks = [t] → s'.live.placed c = some q → f ∈ (m.wp q).facs →
        ¬ (hasSkill (m.fac f).skills (m.task t).name = true ∧ wpTargets m f t = true ∧
           hasSkill (m.worker w).skills (m.task t).name = true ∧ teamTargets m w t = true ∧
           canAdd m s'.live t (some w) (some f) = true) :=
  C06_idle_pair_trace m p _ _ (AllocInv_enter m hp _)

namespace C06PairsEx

/-- one READY facility-needing task (task 0), the single task of component 0, which can be placed
at workplace 0 with the facilities 0 and 1 (both with the skill); two workers with the skill in the
task's team; worker 1 cannot operate facility 1 -/
def mP : Model where
  nT := 1
  nW := 2
  nF := 2
  nTeam := 1
  nWp := 1
  nC := 1
  task := fun _ => { name := 0, work := 3, needFac := true, wps := [0], comp := some 0 }
  worker := fun w =>
    if w = 0 then { team := 0, skills := [(0, 1)], facSkills := [(0, 1), (1, 1)] }
    else { team := 0, skills := [(0, 1)], facSkills := [(0, 1)] }
  fac := fun f => { wp := 0, name := f, skills := [(0, 1)] }
  team := fun _ => { workers := [0, 1], targets := [0] }
  wp := fun _ => { facs := [0, 1], targets := [0], cap := 1 }
  comp := fun _ => { tasks := [0] }

def lP : Live := { Live.empty with tstate := fun t => if t = 0 then .ready else .none, rem := fun _ => 3 }

def sP : St := { St.fresh with live := lP }

theorem sP_inv : AllocInv mP sP.live ∧ HoldWorking sP.live :=
  AllocInv_of_empty (fun _ => rfl) (fun _ => rfl) (fun _ => rfl) (fun _ => rfl)

theorem mP_wf : Place.PlaceWF mP := by decide +kernel

theorem mP_link : ∀ t', t' < mP.nT → (mP.task t').comp = some 0 → t' ∈ (mP.comp 0).tasks := by
  decide +kernel

/-- two READY facility-needing tasks of the SAME component 0 (not yet placed); task 0 has no
workplace of its own, task 1 can be done at workplace 0; the workers work alone -/
def mM : Model where
  nT := 2
  nW := 2
  nF := 2
  nTeam := 1
  nWp := 1
  nC := 1
  task := fun t =>
    if t = 0 then { name := 0, work := 3, needFac := true, wps := [], comp := some 0 }
    else { name := 0, work := 3, needFac := true, wps := [0], comp := some 0 }
  worker := fun _ => { team := 0, skills := [(0, 1)], facSkills := [(0, 1), (1, 1)], solo := true }
  fac := fun f => { wp := 0, name := f, skills := [(0, 1)] }
  team := fun _ => { workers := [0, 1], targets := [0, 1] }
  wp := fun _ => { facs := [0, 1], targets := [0, 1], cap := 1 }
  comp := fun _ => { tasks := [0, 1] }

def lM : Live := { Live.empty with tstate := fun t => if t < 2 then .ready else .none, rem := fun _ => 3 }

end C06PairsEx

/-- the hypotheses of `C06_idle_pair` hold non-trivially: the pass places component 0 at workplace
0 and gives the pair (worker 0, facility 0) to task 0; worker 1 stays FREE and idle, facility 1
stays FREE and unassigned, both have the skill and are assigned to the task — but the task cannot
accept the pair: worker 1 cannot operate facility 1 -/
example :
    (1 < C06PairsEx.mP.nW ∧ (allocate C06PairsEx.mP Logs.empty .tslack C06PairsEx.lP).wstate 1 = .free ∧
     (allocate C06PairsEx.mP Logs.empty .tslack C06PairsEx.lP).wasg 1 = [] ∧
     (allocate C06PairsEx.mP Logs.empty .tslack C06PairsEx.lP).fstate 1 = .free ∧
     (allocate C06PairsEx.mP Logs.empty .tslack C06PairsEx.lP).fasg 1 = [] ∧
     0 < C06PairsEx.mP.nT ∧ C06PairsEx.lP.tstate 0 = .ready ∧
     (C06PairsEx.mP.task 0).isAuto = false ∧ (C06PairsEx.mP.task 0).needFac = true ∧
     (C06PairsEx.mP.task 0).comp = some 0 ∧ (C06PairsEx.mP.comp 0).tasks = [0] ∧
     (allocate C06PairsEx.mP Logs.empty .tslack C06PairsEx.lP).placed 0 = some 0 ∧
     1 ∈ (C06PairsEx.mP.wp 0).facs) ∧
    hasSkill (C06PairsEx.mP.fac 1).skills (C06PairsEx.mP.task 0).name = true ∧
    wpTargets C06PairsEx.mP 1 0 = true ∧
    hasSkill (C06PairsEx.mP.worker 1).skills (C06PairsEx.mP.task 0).name = true ∧
    teamTargets C06PairsEx.mP 1 0 = true ∧
    (allocate C06PairsEx.mP Logs.empty .tslack C06PairsEx.lP).allocW 0 = [0] ∧
    (allocate C06PairsEx.mP Logs.empty .tslack C06PairsEx.lP).allocF 0 = [0] ∧
    canAdd C06PairsEx.mP (allocate C06PairsEx.mP Logs.empty .tslack C06PairsEx.lP) 0 (some 1) (some 1)
      = false := by
  decide +kernel

/-- … the link hypothesis and `PlaceWF` hold for this model … -/
example : (∀ t', t' < C06PairsEx.mP.nT → (C06PairsEx.mP.task t').comp = some 0 →
      t' ∈ (C06PairsEx.mP.comp 0).tasks) ∧ Place.PlaceWF C06PairsEx.mP :=
  ⟨C06PairsEx.mP_link, C06PairsEx.mP_wf⟩

/-- … and so do the hypotheses of `C06_idle_pair_step`: after the whole step worker 0 and facility
0 are WORKING on task 0, worker 1 and facility 1 are FREE, task 0 is WORKING, component 0 sits at
workplace 0 -/
example :
    ({} : Params).absence.contains C06PairsEx.sP.time = false ∧
    (AllocInv C06PairsEx.mP C06PairsEx.sP.live ∧ HoldWorking C06PairsEx.sP.live) ∧
    ((stepBody C06PairsEx.mP {} C06PairsEx.sP).live.wstate 0 = .working ∧
     (stepBody C06PairsEx.mP {} C06PairsEx.sP).live.fstate 0 = .working ∧
     (stepBody C06PairsEx.mP {} C06PairsEx.sP).live.wstate 1 = .free ∧
     (stepBody C06PairsEx.mP {} C06PairsEx.sP).live.fstate 1 = .free ∧
     (stepBody C06PairsEx.mP {} C06PairsEx.sP).live.tstate 0 = .working ∧
     (stepBody C06PairsEx.mP {} C06PairsEx.sP).live.placed 0 = some 0 ∧
     canAdd C06PairsEx.mP (stepBody C06PairsEx.mP {} C06PairsEx.sP).live 0 (some 1) (some 1) = false) :=
  ⟨by decide, C06PairsEx.sP_inv, by decide +kernel⟩

/-- the single-task hypothesis cannot be dropped.  In `C06PairsEx.mM` component 0 carries the
tasks 0 and 1.  At task 0's turn the component is not placed and task 0 has no workplace to move
it to, so task 0 gets nothing; at task 1's turn the component is moved to workplace 0 and task 1
takes (worker 0, facility 0) — and nothing more, the workers work alone.  After the pass
component 0 sits at workplace 0, worker 1 and facility 1 are FREE, unassigned and eligible for
task 0, and task 0 could accept the pair: every other hypothesis of `C06_idle_pair` holds (with
the consistent link `hlink`) and its conclusion fails. -/
example :
    (1 < C06PairsEx.mM.nW ∧ (allocate C06PairsEx.mM Logs.empty .tslack C06PairsEx.lM).wstate 1 = .free ∧
     (allocate C06PairsEx.mM Logs.empty .tslack C06PairsEx.lM).wasg 1 = [] ∧
     (allocate C06PairsEx.mM Logs.empty .tslack C06PairsEx.lM).fstate 1 = .free ∧
     0 < C06PairsEx.mM.nT ∧ C06PairsEx.lM.tstate 0 = .ready ∧
     (C06PairsEx.mM.task 0).isAuto = false ∧ (C06PairsEx.mM.task 0).needFac = true ∧
     (C06PairsEx.mM.task 0).comp = some 0 ∧ (C06PairsEx.mM.comp 0).tasks = [0, 1] ∧
     (allocate C06PairsEx.mM Logs.empty .tslack C06PairsEx.lM).placed 0 = some 0 ∧
     1 ∈ (C06PairsEx.mM.wp 0).facs) ∧
    (allocate C06PairsEx.mM Logs.empty .tslack C06PairsEx.lM).allocW 1 = [0] ∧
    (allocate C06PairsEx.mM Logs.empty .tslack C06PairsEx.lM).allocF 1 = [0] ∧
    (hasSkill (C06PairsEx.mM.fac 1).skills (C06PairsEx.mM.task 0).name = true ∧
     wpTargets C06PairsEx.mM 1 0 = true ∧
     hasSkill (C06PairsEx.mM.worker 1).skills (C06PairsEx.mM.task 0).name = true ∧
     teamTargets C06PairsEx.mM 1 0 = true ∧
     canAdd C06PairsEx.mM (allocate C06PairsEx.mM Logs.empty .tslack C06PairsEx.lM) 0 (some 1) (some 1)
       = true) := by
  decide +kernel

end PDesy

#print axioms PDesy.C06_idle_pair
#print axioms PDesy.C06_idle_pair_wf
#print axioms PDesy.C06_idle_pair_step
#print axioms PDesy.C06_idle_pair_trace
#print axioms PDesy.C06_idle_pair_run
