/-
  PDesy.Props.C19 — "Gantt data, state queries and dates report exactly what the logs contain".

  All statements quantify over ALL state sequences (not only those a simulation can produce),
  all finish margins, time lists, dates and unit lengths.

  Specification side (`PDesy.Runs`, file `PDesy/Lemmas/Runs.lean`):
  * `runsOf st log`     — the maximal runs of `st` in `log` as `(start index, length)`, in order,
                          defined by structural recursion through a run-length encoding;
  * `IsMaxRun log v b n` — first-order definition of "`[b, b+n)` is a maximal run of `v`":
                          `1 ≤ n`, every position of the block holds `v`, the position before the
                          block (if any) and the position after it do not;
  * `enc margin (a, n) = (a, (n − 1) + margin)` — how a run is reported.

  The theorems instantiate `mem_runsOf`, `ganttT_eq_runs`/`ganttC_eq_runs`/`ganttR_eq_runs`,
  `plotlyRow_enc` and `mem_extractIdx` (Lemmas/Runs).
-/
import PDesy.Lemmas.Runs

namespace PDesy
open PDesy.Runs

/-- **C19 (meaning of `runsOf`)**: `runsOf st log` lists exactly the maximal runs of `st` in
`log` — a pair `(a, n)` is returned iff `n ≥ 1`, `log[a+i] = st` for all `i < n`, the block cannot
be extended to the left (`a = 0` or `log[a-1] ≠ st`) nor to the right (`log[a+n] ≠ st`); the
list is in increasing order with pairwise disjoint (even non-adjacent) runs, hence without
duplicates; and every index whose log entry is `st` lies in exactly one returned run.  Together
these facts determine `runsOf st log` uniquely, independently of how it is computed. -/
theorem C19_runs_spec {σ : Type} [DecidableEq σ] (st : σ) (log : List σ) :
    (∀ a n, (a, n) ∈ runsOf st log ↔
        (1 ≤ n ∧ (∀ i, i < n → log[a + i]? = some st) ∧ (a = 0 ∨ log[a - 1]? ≠ some st) ∧
          log[a + n]? ≠ some st)) ∧
    (runsOf st log).Pairwise (fun r1 r2 => r1.1 + r1.2 < r2.1) ∧
    (runsOf st log).Nodup ∧
    (∀ k, log[k]? = some st →
      ∃ r, (r ∈ runsOf st log ∧ r.1 ≤ k ∧ k < r.1 + r.2) ∧
        ∀ r', (r' ∈ runsOf st log ∧ r'.1 ≤ k ∧ k < r'.1 + r'.2) → r' = r) :=
  ⟨fun _ _ => mem_runsOf, runsOf_sorted st log, runsOf_nodup st log,
    fun _ hk => runsOf_cover_unique hk⟩

example : runsOf TS.ready [.none, .ready, .ready, .working, .working, .ready, .finished]
    = [(1, 2), (5, 1)] := by decide +kernel
example : runsOf TS.none [.none, .ready, .none, .none] = [(0, 1), (2, 2)] := by decide +kernel
example : runsOf (3 : Nat) [] = [] := by decide +kernel

/-- **C19 (tasks)**: for every task state log and every finish margin,
`BaseTask.get_time_list_for_gannt_chart` returns as READY list exactly the maximal runs of READY
in the log and as WORKING list exactly the maximal runs of WORKING, each run `(a, n)` reported
as `(a, (n − 1) + finish_margin)`, in chronological order. -/
theorem C19_task (log : List TS) (margin : Rat) :
    ganttT log margin =
      ((runsOf .ready log).map (enc margin), (runsOf .working log).map (enc margin)) :=
  ganttT_eq_runs log margin

example : ganttT [.none, .ready, .ready, .working, .working, .ready, .finished] 1
    = ([(1, 2), (5, 1)], [(3, 2)]) := by decide +kernel
-- a log no simulation produces (WORKING first, back to NONE, unfinished trailing run)
example : ganttT [.working, .none, .none, .ready, .working, .working] (1 / 2)
    = ([(3, 1 / 2)], [(0, 1 / 2), (4, 3 / 2)]) := by decide +kernel
example : ganttT [] 1 = ([], []) := by decide +kernel

/-- **C19 (components)**: the same for `BaseComponent.get_time_list_for_gannt_chart`. -/
theorem C19_component (log : List CS) (margin : Rat) :
    ganttC log margin =
      ((runsOf .ready log).map (enc margin), (runsOf .working log).map (enc margin)) :=
  ganttC_eq_runs log margin

example : ganttC [.none, .none, .ready, .working, .ready, .ready, .working, .finished, .finished] 1
    = ([(2, 1), (4, 2)], [(3, 1), (6, 1)]) := by decide +kernel

/-- **C19 (workers, facilities)**: for every resource state log and every finish margin,
`get_time_list_for_gannt_chart` of `BaseWorker`/`BaseFacility` returns as (ready, working,
absence) lists exactly the maximal runs of FREE, WORKING and ABSENCE in the log, each run
`(a, n)` reported as `(a, (n − 1) + finish_margin)`, in chronological order. -/
theorem C19_resource (log : List RS) (margin : Rat) :
    ganttR log margin =
      ((runsOf .free log).map (enc margin), (runsOf .working log).map (enc margin),
       (runsOf .absence log).map (enc margin)) :=
  ganttR_eq_runs log margin

example : ganttR [.free, .free, .working, .absence, .absence, .working, .working, .free] 1
    = ([(0, 2), (7, 1)], [(2, 1), (5, 2)], [(3, 2)]) := by decide +kernel
example : ganttR [.absence] 0 = ([], [], [(0, 0)]) := by decide +kernel

/-- **C19 (chart rows)**: the (Start, Finish) rows of `create_data_for_gantt_plotly` of a task
(resp. component) are the READY rows (when requested) followed by the WORKING rows; each row is
the image of one maximal run `(a, n)` of that state, with
`Start = init_datetime + a · unit_timedelta` (log index `k` ↦ `init + k·unit`) and
`Finish = init_datetime + (a + (n − 1) + finish_margin) · unit_timedelta`;
with the default `finish_margin = 1`, a row spans exactly `n · unit_timedelta`. -/
theorem C19_rows (init unit margin : Rat) (viewReady : Bool) :
    (∀ log : List TS, plotlyRows init unit viewReady (ganttT log margin) =
      (if viewReady then (runsOf .ready log).map (rowOf init unit margin) else []) ++
        (runsOf .working log).map (rowOf init unit margin)) ∧
    (∀ log : List CS, plotlyRows init unit viewReady (ganttC log margin) =
      (if viewReady then (runsOf .ready log).map (rowOf init unit margin) else []) ++
        (runsOf .working log).map (rowOf init unit margin)) ∧
    (∀ a n : Nat, plotlyRow init unit (enc margin (a, n)) =
      (init + (a : Rat) * unit, init + ((a : Rat) + ((n - 1 : Nat) : Rat) + margin) * unit)) ∧
    (∀ {σ : Type} [DecidableEq σ] (st : σ) (log : List σ), ∀ r ∈ runsOf st log,
      (rowOf init unit 1 r).2 - (rowOf init unit 1 r).1 = (r.2 : Rat) * unit) := by
  have rows : plotlyRow init unit ∘ enc margin = rowOf init unit margin :=
    funext (plotlyRow_enc init unit margin)
  refine ⟨fun log => ?_, fun log => ?_, fun a n => plotlyRow_enc init unit margin (a, n), ?_⟩
  · rw [C19_task, plotlyRows, List.map_map, List.map_map, rows]
  · rw [C19_component, plotlyRows, List.map_map, List.map_map, rows]
  · exact fun st log r hr => rowOf_span init unit r (runsOf_sound (a := r.1) (n := r.2) hr).1

-- init = 100 s, unit = 60 s: READY [1,3) → 160 … 280, READY [5,6) → 400 … 460, WORKING [3,5) → 280 … 400
example : plotlyRows 100 60 true
    (ganttT [.none, .ready, .ready, .working, .working, .ready, .finished] 1)
    = [(160, 280), (400, 460), (280, 400)] := by decide +kernel
example : (3, 2) ∈ runsOf TS.working [.none, .ready, .ready, .working, .working, .ready, .finished] := by
  decide +kernel

/-- **C19 (chart rows, workers and facilities)**: the rows a team / workplace produces for one
resource are: for every maximal run of FREE (if READY rows are requested), then of ABSENCE (if
requested), then of WORKING, the row from `init + start·unit` to
`init + (start + (length − 1) + margin)·unit`, labelled with its kind. -/
theorem C19_rows_resource (init unit margin : Rat) (viewReady viewAbsence : Bool) (log : List RS) :
    plotlyRowsR init unit viewReady viewAbsence (ganttR log margin) =
      (if viewReady then (Runs.runsOf RS.free log).map
          (fun r => ((Runs.rowOf init unit margin r).1, (Runs.rowOf init unit margin r).2, 0)) else []) ++
      (if viewAbsence then (Runs.runsOf RS.absence log).map
          (fun r => ((Runs.rowOf init unit margin r).1, (Runs.rowOf init unit margin r).2, 2)) else []) ++
      (Runs.runsOf RS.working log).map
          (fun r => ((Runs.rowOf init unit margin r).1, (Runs.rowOf init unit margin r).2, 1)) := by
  rw [C19_resource]
  simp only [plotlyRowsR, List.map_map, Function.comp_def, plotlyRow_enc]

/-- **C19 (state queries)**: `__extract_state_*_list(target_time_list, target_state)` returns
object `i` (among the `n` objects) iff the log of `i` shows `target_state` at every requested
time (in particular every requested time is inside the log); the result has no duplicates, so
it is exactly the set Python builds with `list(set(…))`. -/
theorem C19_extract {σ : Type} [DecidableEq σ] (n : Nat) (log : Nat → List σ) (times : List Nat)
    (st : σ) :
    (∀ i, i ∈ extractIdx n log times st ↔ i < n ∧ ∀ k ∈ times, (log i)[k]? = some st) ∧
    (extractIdx n log times st).Nodup :=
  ⟨mem_extractIdx n log times st, extractIdx_nodup n log times st⟩

example : extractIdx 3
    (fun i => if i = 0 then [TS.none, .working, .working] else if i = 1 then [.ready, .working]
      else [.working, .working, .working])
    [1, 2] TS.working = [0, 2] := by decide +kernel

/-- **C19 (dates)**: `set_last_datetime(last, unit)` chooses `init_datetime` so that the last
simulated step (index `time − 1`) falls on `last`: `init + unit · (time − 1) = last`. -/
theorem C19_last_datetime (last unit : Rat) (time : Nat) :
    setLastDatetime last unit time + unit * (((time : Int) - 1 : Int) : Rat) = last :=
  Rat.sub_add_cancel

example : setLastDatetime 1000 60 11 = 400 := by decide +kernel

end PDesy

#print axioms PDesy.C19_runs_spec
#print axioms PDesy.C19_task
#print axioms PDesy.C19_component
#print axioms PDesy.C19_resource
#print axioms PDesy.C19_rows
#print axioms PDesy.C19_rows_resource
#print axioms PDesy.C19_extract
#print axioms PDesy.C19_last_datetime
