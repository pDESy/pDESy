/-
  PDesy.Props.C17 — "Backward simulation leaves the model intact and respects dependencies".

  `backward_simulate` reverses every dependency list (`revDeps`), optionally appends one
  automatic helper task in front of every reversed head whose due time is below the maximum
  (`withHelpers`), runs the ordinary forward `simulate` on that model (`backwardModel m due`),
  and in its `finally` block removes the helpers and reverses the dependency lists again
  (`restored m due = revDeps (dropHelpers m.nT (backwardModel m due))`).

  * `GraphInRange m` (Lemmas/BackwardLemmas): every link of every task `< m.nT` points to a
    task `< m.nT`.
  * `EdgeSym m`: `(a, d) ∈ inputs b ↔ (b, d) ∈ outputs a` — the two lists describe the same
    edges (pDESy keeps them in step through `append_input_task` / `extend_input_task_list`).
  * `Aligned m s` (Lemmas/Defs): every per-step log of `s` has exactly `s.time` entries.

  The theorems instantiate `Extends.backwardModel` with `Extends.restored_task`/`_wp`/`_eq`,
  `aligned_backwardSimulate`, and `run_fs_row`, `run_finished_persists`, `run_fs_order` at
  `M = backwardModel m due` (Lemmas/BackwardLemmas, namespace `Bwd`).
-/
import PDesy.Lemmas.BackwardLemmas
import PDesy.Model.Ser

namespace PDesy
open PDesy.Bwd

namespace C17Ex

/-- Three tasks: `0` is the finish-to-start predecessor of `1` and of `2`; the two tails have
due times 5 and 3, so the backward run with `considering_due_time_of_tail_tasks` puts a helper
(work 5 − 3 = 2) in front of task 2.  One team of two workers who can do everything; two
workplaces linked `0 → 1`. -/
def exB : Model where
  nT := 3
  nW := 2
  nF := 0
  nTeam := 1
  nWp := 2
  nC := 0
  task := fun t =>
    match t with
    | 0 => { name := 0, work := 2, outputs := [(1, .fs), (2, .fs)] }
    | 1 => { name := 1, work := 1, inputs := [(0, .fs)], due := 5 }
    | 2 => { name := 2, work := 2, inputs := [(0, .fs)], due := 3 }
    | _ => default
  worker := fun _ => { team := 0, skills := [(0, 1), (1, 1), (2, 1)] }
  fac := fun _ => {}
  team := fun _ => { workers := [0, 1], targets := [0, 1, 2] }
  wp := fun q => match q with | 0 => { outputs := [1] } | 1 => { inputs := [0] } | _ => default
  comp := fun _ => {}

theorem exB_inRange : GraphInRange exB := by decide +kernel

theorem exB_default : ∀ t, exB.nT ≤ t → exB.task t = default := by
  intro t ht
  have : 3 ≤ t := ht
  match t, this with
  | t + 3, _ => rfl

theorem exB_sym : EdgeSym exB := by
  have key : ∀ d : Dep, ∀ a, a < 3 → ∀ b, b < 3 →
      ((a, d) ∈ (exB.task b).inputs ↔ (b, d) ∈ (exB.task a).outputs) := by
    intro d; cases d <;> decide
  exact fun a b d ha hb => key d a ha b hb

/-- the backward model of `exB` with due times really has a helper: task 3, automatic, work 2,
linked finish-to-start in front of task 2, at the END of task 2's (reversed, empty) input list -/
example : helperTargets (revDeps exB) = [2] ∧ (backwardModel exB true).nT = 4 ∧
    ((backwardModel exB true).task 3).isAuto = true ∧ ((backwardModel exB true).task 3).work = 2 ∧
    ((backwardModel exB true).task 3).outputs = [(2, .fs)] ∧
    ((backwardModel exB true).task 2).inputs = [(3, .fs)] ∧
    ((backwardModel exB true).task 0).inputs = [(1, .fs), (2, .fs)] ∧
    (backwardModel exB false).nT = 3 := by
  decide +kernel

/-- The backward run of `exB` with due times, evaluated once: it succeeds in 4 steps.  Backward logs
of the inner run (tasks 0, 1, 2 and the helper 3), then the reversed logs of the three real tasks:
task 0 is WORKING at step 0 only, its successors 2 and 1 at steps 1 and 3 — and the helper delays
task 2 so that it ends 2 steps (5 − 3) before task 1 does. -/
theorem exB_bwd_run :
    (simulate (backwardModel exB true) {} St.fresh).status = .success ∧
    (simulate (backwardModel exB true) {} St.fresh).time = 4 ∧
    (simulate (backwardModel exB true) {} St.fresh).logs.tState 0 =
      [.none, .none, .none, .working] ∧
    (simulate (backwardModel exB true) {} St.fresh).logs.tState 1 =
      [.working, .finished, .finished, .finished] ∧
    (simulate (backwardModel exB true) {} St.fresh).logs.tState 2 =
      [.none, .none, .working, .finished] ∧
    (simulate (backwardModel exB true) {} St.fresh).logs.tState 3 =
      [.working, .working, .finished, .finished] ∧
    (backwardSimulate exB {} true true St.fresh).logs.tState 0 = [.working, .none, .none, .none] ∧
    (backwardSimulate exB {} true true St.fresh).logs.tState 1 =
      [.finished, .finished, .finished, .working] ∧
    (backwardSimulate exB {} true true St.fresh).logs.tState 2 =
      [.finished, .working, .none, .none] ∧
    (backwardSimulate exB {} true true St.fresh).mode = .backward := by
  simp only [backwardSimulate, Fast.simulate_fast]; decide +kernel

end C17Ex

open C17Ex

/-- **C17 (reverse twice).**  `reverse_dependencies` applied twice gives back the very same
model: every task's input and output lists and every workplace's input and output lists are
swapped back (same elements, same order), nothing else is touched. -/
theorem C17_revDeps_revDeps (m : Model) : revDeps (revDeps m) = m := revDeps_revDeps m

example : ((revDeps exB).task 0).inputs = [(1, .fs), (2, .fs)] ∧ ((revDeps exB).wp 0).inputs = [1] := by
  decide +kernel

/-- **C17 (what the helpers change).**  The model the inner run works on differs from the
reversed model only by extra tasks at indices `≥ m.nT` and by finish-to-start links to such
tasks appended at the END of the input lists of some old tasks: every old task keeps its reversed
input list as a prefix of the new one, the appended entries all point to helpers, its output list
and its progress are those of the reversed model, and the workplaces are those of the reversed
model.  (That the other sizes, the workers, facilities, teams and components are those of `m` is
in `Bwd.Extends.backwardModel`, of which this spells out the fields that matter.) -/
theorem C17_helpers_only_append (m : Model) (due : Bool) :
    m.nT ≤ (backwardModel m due).nT ∧
    (∀ t, t < m.nT → ∃ hs : List (Nat × Dep), (∀ e ∈ hs, m.nT ≤ e.1 ∧ e.2 = .fs) ∧
      ((backwardModel m due).task t).inputs = (m.task t).outputs ++ hs ∧
      ((backwardModel m due).task t).outputs = (m.task t).inputs ∧
      ((backwardModel m due).task t).prog = (m.task t).prog) ∧
    (backwardModel m due).wp = (revDeps m).wp := by
  have E := Extends.backwardModel m due
  refine ⟨E.nT, ?_, E.wp⟩
  intro t ht
  obtain ⟨hs, hhs, htask⟩ := E.task t ht
  exact ⟨hs, hhs, congrArg TaskS.inputs htask, E.outputs ht, E.prog ht⟩

/-- **C17 (restoration).**  `restored m due` is the static structure after the `finally` block
of `backward_simulate`.  It is computed from the model alone: Python executes the `finally`
block whether the inner `simulate` returned or raised, and the block does not look at the
dynamic state — which is exactly why an exception at any step of the inner run cannot prevent
the restoration.  If the links of `m` stay inside its task list, then after the block
* the workflow has `m.nT` tasks again (no helper task is left),
* every task is the task it was: in particular its predecessor (`inputs`) and successor
  (`outputs`) lists hold the same elements in the same order, with no link to a helper left,
* every workplace is the workplace it was (same `inputs` / `outputs` lists, same order),
* and every other component of the model is unchanged. -/
theorem C17_restored (m : Model) (h : GraphInRange m) (due : Bool) :
    (restored m due).nT = m.nT ∧
    (∀ t, t < m.nT → (restored m due).task t = m.task t) ∧
    (restored m due).wp = m.wp ∧
    (restored m due).nW = m.nW ∧ (restored m due).nF = m.nF ∧ (restored m due).nTeam = m.nTeam ∧
    (restored m due).nWp = m.nWp ∧ (restored m due).nC = m.nC ∧
    (restored m due).worker = m.worker ∧ (restored m due).fac = m.fac ∧
    (restored m due).team = m.team ∧ (restored m due).comp = m.comp := by
  have E := Extends.backwardModel m due
  exact ⟨rfl, fun _ ht => E.restored_task h ht, E.restored_wp, E.nW, E.nF, E.nTeam, E.nWp, E.nC,
    E.worker, E.fac, E.team, E.comp⟩

example : GraphInRange exB := exB_inRange

/-- the dependency lists in the usual words -/
theorem C17_restored_lists (m : Model) (h : GraphInRange m) (due : Bool) :
    (restored m due).nT = m.nT ∧
    (∀ t, t < m.nT → ((restored m due).task t).inputs = (m.task t).inputs ∧
      ((restored m due).task t).outputs = (m.task t).outputs) ∧
    (∀ q, ((restored m due).wp q).inputs = (m.wp q).inputs ∧
      ((restored m due).wp q).outputs = (m.wp q).outputs) := by
  obtain ⟨h1, h2, h3, _⟩ := C17_restored m h due
  exact ⟨h1, fun t ht => by rw [h2 t ht]; exact ⟨rfl, rfl⟩, fun q => by rw [h3]; exact ⟨rfl, rfl⟩⟩

example : GraphInRange exB := exB_inRange

/-- **C17 (restoration, as an equation).**  If moreover the model carries default data outside
its task range (indices `≥ m.nT` stand for no object), the restored model *is* `m`. -/
theorem C17_restored_eq (m : Model) (h : GraphInRange m)
    (hdef : ∀ t, m.nT ≤ t → m.task t = default) (due : Bool) : restored m due = m :=
  (Extends.backwardModel m due).restored_eq h hdef

example : GraphInRange exB ∧ ∀ t, exB.nT ≤ t → exB.task t = default := ⟨exB_inRange, exB_default⟩

/-- the restoration evaluated on the example (serialised, since `Model` contains functions):
with and without helpers the result is the model itself, although the model the inner run
used was a different one -/
example : putModel (restored exB true) = putModel exB ∧ putModel (restored exB false) = putModel exB ∧
    putModel (backwardModel exB true) ≠ putModel (revDeps exB) ∧
    putModel (revDeps exB) ≠ putModel exB :=
  ⟨congrArg putModel (C17_restored_eq exB exB_inRange exB_default true),
   congrArg putModel (C17_restored_eq exB exB_inRange exB_default false), by decide +kernel⟩

/-- **C17 (one entry per step).**  For ANY choice of `due`, of the init flags and of `rev`: if the
backward run clears the logs, or the logs of the objects of `m` were aligned before, then after
`backward_simulate` every log of every task, worker, facility, team, workplace and component of
`m`, and the two cost logs, have exactly `project.time` entries.

Nothing is assumed about the helper slots: each step of the inner run appends one entry to
every log of the inner model — in particular to every log at an index of `m` — so alignment of
the slots of `m` is an invariant of the inner loop on its own (`Bwd.aligned_sub_run`); the
helpers' logs (which after a run with `initialize_log_info = False` from a clock `> 0` are shorter
than the clock) belong to objects that no longer exist. -/
theorem C17_aligned_general (m : Model) (p : Params) (due rev : Bool) (s : St)
    (h : p.initLog = true ∨ Aligned m s) : Aligned m (backwardSimulate m p due rev s) :=
  aligned_backwardSimulate m p due rev s h

/-- the hypothesis of `C17_aligned` is stronger than that of `C17_aligned_general` -/
theorem C17_aligned_hyp_weaker (m : Model) (due : Bool) (s : St)
    (h : Aligned (backwardModel m due) (bwdStart m due s)) : Aligned m s :=
  (aligned_bwdStart_iff_of_le due (Nat.le_refl _)).mp (h.mono (SizesLE.backwardModel m due))

/-- **C17 (one entry per step, start state aligned for the inner run).**  The same with a
stronger second alternative: the state the inner run starts from is aligned with respect to the
model of the inner run, helper slots included. -/
theorem C17_aligned (m : Model) (p : Params) (due rev : Bool) (s : St)
    (h : p.initLog = true ∨ Aligned (backwardModel m due) (bwdStart m due s)) :
    Aligned m (backwardSimulate m p due rev s) :=
  C17_aligned_general m p due rev s (h.imp id (C17_aligned_hyp_weaker m due s))

example : ({} : Params).initLog = true := rfl

/-- the clock after `backward_simulate` is the clock of the inner run -/
theorem C17_time (m : Model) (p : Params) (due rev : Bool) (s : St) :
    (backwardSimulate m p due rev s).time = (simulate (backwardModel m due) p (bwdStart m due s)).time := by
  unfold backwardSimulate; cases rev
  · rfl
  · exact reverseLogs_time _ _

/-- with `reverse_log_information` every task-state log is the inner run's log reversed -/
theorem C17_reversed_log (m : Model) (p : Params) (due : Bool) (s : St) (t : Nat) (ht : t < m.nT) :
    (backwardSimulate m p due true s).logs.tState t =
      ((simulate (backwardModel m due) p (bwdStart m due s)).logs.tState t).reverse := by
  unfold backwardSimulate
  simp only [if_true]
  rw [reverseLogs_tState _ _ t ht]

/-- a finish-to-start link `a → b` of `m`, as recorded in the successor list of `a`, is a
finish-to-start link `b → a` of the model of the inner run (reversal turns successor lists
into predecessor lists; the helpers are only appended behind them) -/
theorem C17_reversed_edge (m : Model) (due : Bool) {a b : Nat} (ha : a < m.nT)
    (hedge : (b, Dep.fs) ∈ (m.task a).outputs) :
    (b, Dep.fs) ∈ ((backwardModel m due).task a).inputs :=
  (Extends.backwardModel m due).mem_inputs (r := revDeps m) ha hedge

/-- **C17 (backward logs, one step).**  In the logs of the inner (backward) run, whenever
task `a` is logged in any state but NONE, each of its finish-to-start *successors* `b` (in
`m`) is logged FINISHED at the same step.  `a` must not be complete by default. -/
theorem C17_backward_row (m : Model) (p : Params) (due : Bool) (s : St)
    (hs : p.initState = true) (hl : p.initLog = true) {a b : Nat} (ha : a < m.nT) (hb : b < m.nT)
    (hex : ¬ exempt m a) (hedge : (b, Dep.fs) ∈ (m.task a).outputs) {k : Nat} {x : TS}
    (h : ((simulate (backwardModel m due) p (bwdStart m due s)).logs.tState a)[k]? = some x) (hx : x ≠ .none) :
    ((simulate (backwardModel m due) p (bwdStart m due s)).logs.tState b)[k]? = some .finished := by
  have E := Extends.backwardModel m due
  have hex' : ¬ exempt (backwardModel m due) a := by
    unfold exempt at hex ⊢
    rw [E.prog (r := revDeps m) ha]; exact hex
  exact run_fs_row (bwdStart m due s) hs hl (Nat.lt_of_lt_of_le ha E.nT) (Nat.lt_of_lt_of_le hb E.nT) hex'
    (C17_reversed_edge m due ha hedge) h hx

example : ({} : Params).initState = true ∧ ({} : Params).initLog = true ∧ ¬ exempt exB 0 ∧
    (1, Dep.fs) ∈ (exB.task 0).outputs := by
  unfold exempt; decide +kernel

/-- **C17 (backward logs, FINISHED persists).**  Once a task is logged FINISHED in the inner run,
it is logged FINISHED at every later recorded step. -/
theorem C17_backward_persist (m : Model) (p : Params) (due : Bool) (s : St) (hl : p.initLog = true)
    {b : Nat} (hb : b < m.nT) {k k' : Nat}
    (h : ((simulate (backwardModel m due) p (bwdStart m due s)).logs.tState b)[k]? = some .finished) (hkk : k ≤ k')
    (hk' : k' < (simulate (backwardModel m due) p (bwdStart m due s)).time) :
    ((simulate (backwardModel m due) p (bwdStart m due s)).logs.tState b)[k']? = some .finished := by
  have E := Extends.backwardModel m due
  rw [Logs.run_time (bwdStart m due s) hl] at hk'
  exact run_finished_persists (bwdStart m due s) hl (Nat.lt_of_lt_of_le hb E.nT) h hkk hk'

example : ({} : Params).initLog = true := rfl

/-- **C17 (backward order).**  In the logs of the inner run (before they are reversed), every
step at which the successor `b` is logged WORKING comes strictly before every step at which
its finish-to-start predecessor `a` (predecessor in `m`) is logged WORKING.  No exemption
hypothesis: a task complete by default is never logged WORKING at all. -/
theorem C17_backward_order (m : Model) (p : Params) (due : Bool) (s : St)
    (hs : p.initState = true) (hl : p.initLog = true) {a b : Nat} (ha : a < m.nT) (hb : b < m.nT)
    (hedge : (b, Dep.fs) ∈ (m.task a).outputs) {i j : Nat}
    (hi : ((simulate (backwardModel m due) p (bwdStart m due s)).logs.tState b)[i]? = some .working)
    (hj : ((simulate (backwardModel m due) p (bwdStart m due s)).logs.tState a)[j]? = some .working) : i < j := by
  have E := Extends.backwardModel m due
  exact run_fs_order (bwdStart m due s) hs hl (Nat.lt_of_lt_of_le ha E.nT) (Nat.lt_of_lt_of_le hb E.nT)
    (C17_reversed_edge m due ha hedge) hi hj

example : ({} : Params).initState = true ∧ ({} : Params).initLog = true ∧
    (1, Dep.fs) ∈ (exB.task 0).outputs := by
  decide +kernel

/-- **C17 (order in the time-reversed logs).**  After a backward run that initialises state
and logs and reverses the logs at the end, every step at which a task `a` is logged WORKING
comes strictly before every step at which a finish-to-start successor `b` of `a` is logged
WORKING: no task is logged WORKING before all of its finish-to-start predecessors have
stopped being WORKING.  The link is read from the successor list of `a`
(`(b, FS) ∈ outputs a`), which is the list the reversal turns into a predecessor list. -/
theorem C17_reversed_order (m : Model) (p : Params) (due : Bool) (s : St)
    (hs : p.initState = true) (hl : p.initLog = true) {a b : Nat} (ha : a < m.nT) (hb : b < m.nT)
    (hedge : (b, Dep.fs) ∈ (m.task a).outputs) {i j : Nat}
    (hi : ((backwardSimulate m p due true s).logs.tState a)[i]? = some .working)
    (hj : ((backwardSimulate m p due true s).logs.tState b)[j]? = some .working) : i < j := by
  have E := Extends.backwardModel m due
  rw [C17_reversed_log m p due s a ha] at hi
  rw [C17_reversed_log m p due s b hb] at hj
  -- both logs of the inner run have one entry per recorded step
  obtain ⟨hi', hj', hlt⟩ := getElem?_reverse_mirror
    ((run_tState_length (bwdStart m due s) hl (Nat.lt_of_lt_of_le ha E.nT)).trans
      (run_tState_length (bwdStart m due s) hl (Nat.lt_of_lt_of_le hb E.nT)).symm) hi hj
  exact hlt (C17_backward_order m p due s hs hl ha hb hedge hj' hi')

example : ({} : Params).initState = true ∧ ({} : Params).initLog = true ∧
    (2, Dep.fs) ∈ (exB.task 0).outputs := by
  decide +kernel

/-! The order clause with the link read from the *predecessor* list of `b`
(`(a, FS) ∈ inputs b`) is false for a model whose two lists disagree:

    theorem C17_reversed_order_inputs (m p due s) (hs : p.initState = true) (hl : p.initLog = true)
        (ha : a < m.nT) (hb : b < m.nT) (hedge : (a, Dep.fs) ∈ (m.task b).inputs)
        (hi : ((backwardSimulate m p due true s).logs.tState a)[i]? = some .working)
        (hj : ((backwardSimulate m p due true s).logs.tState b)[j]? = some .working) : i < j

`reverse_dependencies` swaps the lists task by task, so a link that is present only in
`inputs b` becomes an *output* link of `b` in the backward model and constrains nothing
(counterexample `exAsym` below).  With `EdgeSym m` — the invariant pDESy's own link-building
methods maintain — the statement holds (`…_partial`). -/

/-- counterexample model: task 1 lists 0 as FS predecessor, task 0 does not list 1 as successor -/
def C17Ex.exAsym : Model where
  nT := 2
  nW := 2
  nF := 0
  nTeam := 1
  nWp := 0
  nC := 0
  task := fun t =>
    match t with
    | 0 => { name := 0, work := 2 }
    | 1 => { name := 1, work := 2, inputs := [(0, .fs)] }
    | _ => default
  worker := fun w => { team := 0, skills := [(w, 1)] }
  fac := fun _ => {}
  team := fun _ => { workers := [0, 1], targets := [0, 1] }
  wp := fun _ => {}
  comp := fun _ => {}

/-- on `exAsym` both tasks are logged WORKING at steps 0 and 1 of the reversed backward run -/
example : (0, Dep.fs) ∈ (exAsym.task 1).inputs ∧ GraphInRange exAsym ∧
    ((backwardSimulate exAsym {} false true St.fresh).logs.tState 0)[1]? = some .working ∧
    ((backwardSimulate exAsym {} false true St.fresh).logs.tState 1)[0]? = some .working := by
  simp only [backwardSimulate, Fast.simulate_fast]; decide +kernel

/-- **C17 (backward order, link read from `inputs b`).**  `C17_backward_order` for a model whose
input and output lists describe the same edges. -/
theorem C17_backward_order_partial (m : Model) (hsym : EdgeSym m) (p : Params) (due : Bool) (s : St)
    (hs : p.initState = true) (hl : p.initLog = true) {a b : Nat} (ha : a < m.nT) (hb : b < m.nT)
    (hedge : (a, Dep.fs) ∈ (m.task b).inputs) {i j : Nat}
    (hi : ((simulate (backwardModel m due) p (bwdStart m due s)).logs.tState b)[i]? = some .working)
    (hj : ((simulate (backwardModel m due) p (bwdStart m due s)).logs.tState a)[j]? = some .working) : i < j :=
  C17_backward_order m p due s hs hl ha hb ((hsym a b .fs ha hb).mp hedge) hi hj

example : EdgeSym exB ∧ (0, Dep.fs) ∈ (exB.task 1).inputs := ⟨exB_sym, by decide +kernel⟩

/-- **C17 (order in the time-reversed logs, link read from `inputs b`).**  For a model whose
input and output lists describe the same edges: if `a` is a finish-to-start predecessor of
`b`, every step at which `a` is logged WORKING in the reversed logs of a backward run comes
strictly before every step at which `b` is logged WORKING. -/
theorem C17_reversed_order_partial (m : Model) (hsym : EdgeSym m) (p : Params) (due : Bool) (s : St)
    (hs : p.initState = true) (hl : p.initLog = true) {a b : Nat} (ha : a < m.nT) (hb : b < m.nT)
    (hedge : (a, Dep.fs) ∈ (m.task b).inputs) {i j : Nat}
    (hi : ((backwardSimulate m p due true s).logs.tState a)[i]? = some .working)
    (hj : ((backwardSimulate m p due true s).logs.tState b)[j]? = some .working) : i < j :=
  C17_reversed_order m p due s hs hl ha hb ((hsym a b .fs ha hb).mp hedge) hi hj

example : EdgeSym exB ∧ (0, Dep.fs) ∈ (exB.task 2).inputs := ⟨exB_sym, by decide +kernel⟩

/-- **C17 (reversed logs, stated per step).**  In the reversed logs, at any step at or after
one where the successor `b` is logged WORKING, the finish-to-start predecessor `a` is not
logged WORKING any more. -/
theorem C17_reversed_pred_stopped (m : Model) (p : Params) (due : Bool) (s : St)
    (hs : p.initState = true) (hl : p.initLog = true) {a b : Nat} (ha : a < m.nT) (hb : b < m.nT)
    (hedge : (b, Dep.fs) ∈ (m.task a).outputs) {j : Nat}
    (hj : ((backwardSimulate m p due true s).logs.tState b)[j]? = some .working) :
    ∀ i, j ≤ i → ((backwardSimulate m p due true s).logs.tState a)[i]? ≠ some .working := by
  intro i hji hi
  have := C17_reversed_order m p due s hs hl ha hb hedge hi hj
  omega

example : ({} : Params).initState = true ∧ ({} : Params).initLog = true := ⟨rfl, rfl⟩

/-- `exB_bwd_run` with the task-state logs side by side -/
example :
    (simulate (backwardModel exB true) {} St.fresh).status = .success ∧
    (simulate (backwardModel exB true) {} St.fresh).time = 4 ∧
    (List.range 4).map (simulate (backwardModel exB true) {} St.fresh).logs.tState =
      [[.none, .none, .none, .working],
       [.working, .finished, .finished, .finished],
       [.none, .none, .working, .finished],
       [.working, .working, .finished, .finished]] ∧
    (List.range 3).map (backwardSimulate exB {} true true St.fresh).logs.tState =
      [[.working, .none, .none, .none],
       [.finished, .finished, .finished, .working],
       [.finished, .working, .none, .none]] ∧
    (backwardSimulate exB {} true true St.fresh).mode = .backward := by
  obtain ⟨h1, h2, a0, a1, a2, a3, b0, b1, b2, h3⟩ := exB_bwd_run
  refine ⟨h1, h2, ?_, ?_, h3⟩
  · rw [show List.range 4 = [0, 1, 2, 3] from rfl]
    simp only [List.map_cons, List.map_nil, a0, a1, a2, a3]
  · rw [show List.range 3 = [0, 1, 2] from rfl]
    simp only [List.map_cons, List.map_nil, b0, b1, b2]

end PDesy

#print axioms PDesy.C17_revDeps_revDeps
#print axioms PDesy.C17_helpers_only_append
#print axioms PDesy.C17_restored
#print axioms PDesy.C17_restored_lists
#print axioms PDesy.C17_restored_eq
#print axioms PDesy.C17_aligned_general
#print axioms PDesy.C17_aligned_hyp_weaker
#print axioms PDesy.C17_aligned
#print axioms PDesy.C17_time
#print axioms PDesy.C17_reversed_log
#print axioms PDesy.C17_reversed_edge
#print axioms PDesy.C17_backward_row
#print axioms PDesy.C17_backward_persist
#print axioms PDesy.C17_backward_order
#print axioms PDesy.C17_reversed_order
#print axioms PDesy.C17_backward_order_partial
#print axioms PDesy.C17_reversed_order_partial
#print axioms PDesy.C17_reversed_pred_stopped
