/-
  PDesy.Props.C08 — "Every log has one entry per simulated step, equal to that step's live
  state".  Counting: `Aligned` (every log of an object of the model has `time` entries) is an
  invariant of the loop.  Content: the logs after the loop are the logs before it plus one row per
  state of the trace, so entry `k` shows the state recorded at step `k` (`Logs.RowAt`; at an absence
  step a WORKING task/component is shown READY and every worker/facility ABSENCE).
  The counting theorems are `Bwd.aligned_sub_step` … `_run` (Lemmas/Logs) at `M = m` (C17: a larger `M`), the
  content theorems `Logs.loop_logs`, `loop_rowAt`, `run_rowAt`, `run_time`; the clock `loop_time`, `trace_time`.
-/
import PDesy.Lemmas.Logs

namespace PDesy
open PDesy.Logs

variable {m : Model} {p : Params}

/-- `Aligned` only looks at the logs and the clock. -/
theorem C08_aligned_congr {s s' : St} (hl : s'.logs = s.logs) (ht : s'.time = s.time)
    (h : Aligned m s) : Aligned m s' :=
  h.congr hl ht

/-- One loop iteration (`stepBody`: absence, allocate, check WORKING, cost, perform, record,
tick) appends exactly one entry to every log and advances the clock by one. -/
theorem C08_aligned_step (s : St) (h : Aligned m s) : Aligned m (stepBody m p s) :=
  Bwd.aligned_sub_step (.refl m) s h

/-- The `__update` block at the top of an iteration touches neither logs nor clock. -/
theorem C08_aligned_updated (s : St) (h : Aligned m s) : Aligned m (updated m s) :=
  C08_aligned_congr (updated_logs s) (updated_time s) h

/-- Writing `project.status` (the verdict at the end of a run) touches neither logs nor clock. -/
theorem C08_aligned_status (s : St) (st : Status) (h : Aligned m s) :
    Aligned m { s with status := st } := C08_aligned_congr (s := s) rfl rfl h

/-- Writing `project.simulation_mode` (FORWARD / BACKWARD) touches neither logs nor clock. -/
theorem C08_aligned_mode (s : St) (md : Mode) (h : Aligned m s) :
    Aligned m { s with mode := md } := C08_aligned_congr (s := s) rfl rfl h

/-- Storing `project.absence_time_list` touches neither logs nor clock. -/
theorem C08_aligned_absence (s : St) (ab : List Nat) (h : Aligned m s) :
    Aligned m { s with absence := ab } := C08_aligned_congr (s := s) rfl rfl h

/-- Storing `project.perform_auto_task_while_absence_time` touches neither logs nor clock. -/
theorem C08_aligned_autoFlag (s : St) (b : Bool) (h : Aligned m s) :
    Aligned m { s with autoFlag := b } := C08_aligned_congr (s := s) rfl rfl h

/-- The whole `while True` loop, with any fuel, keeps alignment. -/
theorem C08_aligned_loop (fuel : Nat) (s : St) (h : Aligned m s) : Aligned m (loop m p fuel s) :=
  Bwd.aligned_sub_loop (.refl m) fuel s h

/-- `initialize(state_info, log_info=True)` resets the clock and all logs together: the result
is aligned whatever the state before. -/
theorem C08_aligned_init (stateInfo : Bool) (s : St) :
    Aligned m (initProject m stateInfo true s) := Bwd.aligned_sub_init stateInfo s

/-- `initialize(state_info, log_info=False)` touches neither logs nor clock. -/
theorem C08_aligned_init_keep (stateInfo : Bool) (s : St) (h : Aligned m s) :
    Aligned m (initProject m stateInfo false s) := Bwd.aligned_sub_init_keep stateInfo s h

/-- The state a run enters its loop with is aligned if the run clears the logs or the project
was aligned before. -/
theorem C08_aligned_enter (s : St) (h : p.initLog = true ∨ Aligned m s) :
    Aligned m (enter m p s) := Bwd.aligned_sub_enter s h

/-- **C08 (counting).**  After `simulate`, every log has exactly `project.time` entries —
provided the run cleared the logs (`initLog = true`, the default) or the project was aligned
before the run (e.g. it is the result of an earlier run). -/
theorem C08_run (s : St) (h : p.initLog = true ∨ Aligned m s) : Aligned m (simulate m p s) :=
  Bwd.aligned_sub_run (.refl m) s h

example : Aligned demo St.fresh := aligned_fresh demo
example : demoP.initLog = true := rfl
example : (simulate demo demoP St.fresh).time = 4 := demo_run.1
example : ((simulate demo demoP St.fresh).logs.tState 1).length = 4 := by
  obtain ⟨-, -, -, -, -, -, ht1, -⟩ := demo_run
  rw [ht1]; rfl

/-- The loop advances the clock by the number of steps it executed (= the length of its
trace). -/
theorem C08_time (fuel : Nat) (s : St) :
    (loop m p fuel s).time = s.time + (trace m p fuel s).length := loop_time fuel s

/-- After a run that cleared the logs, `project.time` is the number of executed steps (and by
`C08_run` the length of every log). -/
theorem C08_run_time (s : St) (h : p.initLog = true) :
    (simulate m p s).time = (runTrace m p s).length := run_time s h

example : (runTrace demo demoP St.fresh).length = 4 := demo_run.2.2.1

/-- The `k`-th executed step of the loop ran at time `s.time + k` (its recorded state carries
the clock already ticked). -/
theorem C08_trace_time (fuel : Nat) (s : St) (k : Nat) (hk : k < (trace m p fuel s).length) :
    ((trace m p fuel s)[k]).time = s.time + k + 1 := trace_time fuel s k hk

/-- **The bridge.**  The logs after the loop are the logs before it plus one row per state of
the trace (row = `cost` then `record` of that state's live data, with the working flag of the
time the step ran at). -/
theorem C08_bridge (fuel : Nat) (s : St) :
    (loop m p fuel s).logs = rowLogs m p s.logs (trace m p fuel s) := loop_logs fuel s

/-- **C08 (content).**  If the logs are aligned when the loop starts, then for every executed
step `k`, entry `s.time + k` of each of the 17 logs of the final state is the displayed value
of the corresponding live attribute of `trace[k]`, the project state when step `k` was
recorded; the display rule is that of time `s.time + k` (working step: the live value itself;
absence step: WORKING task/component shown READY, every worker/facility ABSENCE, all costs 0). -/
theorem C08_entry (fuel : Nat) (s : St) (h : Aligned m s) (k : Nat)
    (hk : k < (trace m p fuel s).length) :
    RowAt m (loop m p fuel s).logs (s.time + k) (workingAt p (s.time + k))
      ((trace m p fuel s)[k]).live := loop_rowAt fuel s h k hk

example : 2 < (trace demo demoP 9 St.fresh).length := demo_trace

/-- **C08 for a whole run.**  After `simulate` with `initLog = true`, entry `k` of every log is
the displayed live value of the state recorded at step `k`, for every executed step `k`. -/
theorem C08_run_entry (s : St) (h : p.initLog = true) (k : Nat)
    (hk : k < (runTrace m p s).length) :
    RowAt m (simulate m p s).logs k (workingAt p k) ((runTrace m p s)[k]).live := run_rowAt s h k hk

/-- the demo run: step 1 is an absence step; worker 0 is WORKING on task 0 but shown ABSENCE,
and task 0 is shown READY -/
example : ((simulate demo demoP St.fresh).logs.wState 0)[1]? = some RS.absence ∧
    ((simulate demo demoP St.fresh).logs.tState 0)[1]? = some TS.ready ∧
    ((runTrace demo demoP St.fresh)[1]?.map fun s => s.live.tstate 0) = some TS.working := by
  obtain ⟨-, -, -, -, -, ht0, -, hw0, -⟩ := demo_run
  rw [hw0, ht0]
  exact ⟨rfl, rfl, demo_states.2.2.1⟩

end PDesy

#print axioms PDesy.C08_aligned_congr
#print axioms PDesy.C08_aligned_step
#print axioms PDesy.C08_aligned_updated
#print axioms PDesy.C08_aligned_status
#print axioms PDesy.C08_aligned_mode
#print axioms PDesy.C08_aligned_absence
#print axioms PDesy.C08_aligned_autoFlag
#print axioms PDesy.C08_aligned_loop
#print axioms PDesy.C08_aligned_init
#print axioms PDesy.C08_aligned_init_keep
#print axioms PDesy.C08_aligned_enter
#print axioms PDesy.C08_run
#print axioms PDesy.C08_time
#print axioms PDesy.C08_run_time
#print axioms PDesy.C08_trace_time
#print axioms PDesy.C08_bridge
#print axioms PDesy.C08_entry
#print axioms PDesy.C08_run_entry
