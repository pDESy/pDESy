/-
  PDesy.Props.C17Start — C17, the start state of the inner backward run.

  `backwardSimulate m p due rev s` runs the inner `simulate (backwardModel m due) p` from
  `bwdStart m due s`: the project state `s` with the slots `t ≥ m.nT` of the task fields (the
  helper tasks — new objects in the real code) reset to constructor values.  The theorems of
  Props/C17 mention that start state.  This file says when it can be forgotten: with
  `initialize_state_info = initialize_log_info = True` it is irrelevant, and the C17 log theorems hold of
  `simulate (backwardModel m due) p s`, the inner run started from `s` itself (the theorems
  `…_old`); it changes nothing that belongs to an object of `m`; when no helper is added, its
  alignment with respect to the inner model is alignment of `s` with respect to `m`; and for ANY
  `due` and any flags an aligned project stays aligned (`C17_aligned_general` of Props/C17 asks
  nothing of the helper slots, whose logs are dropped with the helpers).

  The theorems instantiate `C09_resim` (Props/C09Det), the theorems of Props/C17, and
  `aligned_bwdStart_iff_of_le`, `backwardModel_nT` (Lemmas/BackwardLemmas).
-/
import PDesy.Props.C17
import PDesy.Props.C09Det

namespace PDesy
open PDesy.Bwd

namespace C17Ex

/-- a dirty project on `exB`: junk in the slot of the future helper task (index 3 = `exB.nT`):
state FINISHED, remaining work 7, PERT times, an allocation, and task logs of length 2 — and
real data at the real tasks (task 0 WORKING with worker 1) -/
def sJ : St :=
  { St.fresh with
    live := { Live.empty with
      tstate := fun t => if t = 3 then .finished else if t = 0 then .working else .none
      rem := fun t => if t = 3 then 7 else 1
      est := fun t => if t = 3 then 4 else 0
      lft := fun t => if t = 3 then 9 else -1
      allocW := fun t => if t = 3 then [0] else if t = 0 then [1] else []
      wasg := fun w => if w = 1 then [0] else [] }
    logs := { Logs.empty with
      tState := fun t => if t = 3 then [.working, .finished] else []
      tRem := fun t => if t = 3 then [1, 0] else [] } }

/-- the project after two steps of a forward run stopped at `max_time = 2`: aligned, clock 2 -/
def s2 : St := simulate exB { maxTime := 2 } St.fresh

/-- run again without clearing the logs -/
def pKeep : Params := { initLog := false }

theorem exB_run_any (s : St) :
    simulate (backwardModel exB true) {} s = simulate (backwardModel exB true) {} St.fresh :=
  C09_resim (backwardModel exB true) {} s St.fresh rfl rfl

theorem s2_aligned : Aligned exB s2 := Bwd.aligned_sub_run (.refl _) St.fresh (Or.inl rfl)

/-- what the examples below observe of `s2` and of the backward runs on top of it that keep the logs
(without due times: no helper; with: one helper, whose log holds the 4 entries of that run only),
evaluated once -/
theorem s2_facts :
    s2.time = 2 ∧ ¬ Aligned (backwardModel exB true) (bwdStart exB true s2) ∧
    Aligned (backwardModel exB false) (bwdStart exB false s2) ∧
    (backwardSimulate exB pKeep false true s2).time = 5 ∧
    ((backwardSimulate exB pKeep false true s2).logs.tState 0).length = 5 ∧
    Aligned exB (backwardSimulate exB pKeep false true s2) ∧
    (backwardSimulate exB pKeep true false s2).time = 6 ∧
    ((backwardSimulate exB pKeep true false s2).logs.tState 3).length = 4 ∧
    ¬ Aligned (backwardModel exB true) (backwardSimulate exB pKeep true false s2) ∧
    Aligned exB (backwardSimulate exB pKeep true false s2) ∧
    Aligned exB (backwardSimulate exB pKeep true true s2) := by
  simp only [s2, backwardSimulate, Fast.simulate_fast]; decide +kernel

end C17Ex

open C17Ex

/-- **C17 (start state irrelevant).**  When the inner run initialises both the state and the
logs, it makes no difference that it starts from `bwdStart m due s` rather than from `s`:
`initialize` overwrites every live field at every index, empties every log and resets clock,
status and mode before anything is read (C09), so the constructor values `bwdStart` puts at
the helper slots are overwritten like everything else.  (Equality of whole states.) -/
theorem bwdStart_irrelevant (m : Model) (p : Params) (due : Bool) (s : St)
    (hs : p.initState = true) (hl : p.initLog = true) :
    simulate (backwardModel m due) p (bwdStart m due s) = simulate (backwardModel m due) p s :=
  C09_resim (backwardModel m due) p _ _ hs hl

/-- the hypotheses hold for the default parameters; `bwdStart` really changes `sJ` (helper slot
3: FINISHED → NONE, remaining 7 → the helper's work 2, logs emptied), and still the two runs
agree — a real run of 4 steps -/
example : ({} : Params).initState = true ∧ ({} : Params).initLog = true ∧
    (backwardModel exB true).nT = 4 ∧
    sJ.live.tstate 3 = .finished ∧ (bwdStart exB true sJ).live.tstate 3 = .none ∧
    sJ.live.rem 3 = 7 ∧ (bwdStart exB true sJ).live.rem 3 = 2 ∧
    (sJ.logs.tState 3).length = 2 ∧ (bwdStart exB true sJ).logs.tState 3 = [] ∧
    putSt (backwardModel exB true) (simulate (backwardModel exB true) {} (bwdStart exB true sJ)) =
      putSt (backwardModel exB true) (simulate (backwardModel exB true) {} sJ) ∧
    (simulate (backwardModel exB true) {} sJ).time = 4 :=
  ⟨rfl, rfl, by decide +kernel, by decide +kernel, by decide +kernel, by decide +kernel,
    by decide +kernel, by decide +kernel, by decide +kernel,
    congrArg (putSt _) (bwdStart_irrelevant exB {} true sJ rfl rfl),
    (congrArg St.time (exB_run_any sJ)).trans exB_bwd_run.2.1⟩

/-- both flags are needed: without `initialize_state_info` the junk in the helper slot (helper already
FINISHED) shows through when the run starts from `sJ` itself; without `initialize_log_info` the stale
helper logs survive -/
example :
    putSt (backwardModel exB true)
        (simulate (backwardModel exB true) { initState := false } (bwdStart exB true sJ)) ≠
      putSt (backwardModel exB true) (simulate (backwardModel exB true) { initState := false } sJ) ∧
    putSt (backwardModel exB true)
        (simulate (backwardModel exB true) { initLog := false } (bwdStart exB true sJ)) ≠
      putSt (backwardModel exB true) (simulate (backwardModel exB true) { initLog := false } sJ) := by
  simp only [Fast.simulate_fast]; decide +kernel

/-- `backward_simulate` with the inner run started from the project state `s` itself, helper slots
included.  Not what pDESy does (there the helpers are new objects: `freshHelpers`), but the same
function when both init flags are set. -/
def backwardSimulateOld (m : Model) (p : Params) (considerDue reverse : Bool) (s : St) : St :=
  let s1 := simulate (backwardModel m considerDue) p s
  let s2 := { s1 with mode := .backward }
  if reverse then reverseLogs m s2 else s2

/-- **C17 (definition without the start state).**  With both `initialize_*_info` flags set,
`backwardSimulate` is the definition without `bwdStart`: run `simulate` on the backward model
from `s`, set the mode to BACKWARD, reverse the logs if asked. -/
theorem C17_backward_eq_old (m : Model) (p : Params) (due rev : Bool) (s : St)
    (hs : p.initState = true) (hl : p.initLog = true) :
    backwardSimulate m p due rev s =
      (let s1 := simulate (backwardModel m due) p s
       let s2 := { s1 with mode := .backward }
       if rev then reverseLogs m s2 else s2) := by
  unfold backwardSimulate
  rw [bwdStart_irrelevant m p due s hs hl]

/-- the same with the right-hand side given a name -/
theorem C17_backward_eq_old' (m : Model) (p : Params) (due rev : Bool) (s : St)
    (hs : p.initState = true) (hl : p.initLog = true) :
    backwardSimulate m p due rev s = backwardSimulateOld m p due rev s :=
  C17_backward_eq_old m p due rev s hs hl

example : ({} : Params).initState = true ∧ ({} : Params).initLog = true ∧
    putSt exB (backwardSimulate exB {} true true sJ) = putSt exB (backwardSimulateOld exB {} true true sJ) ∧
    (backwardSimulateOld exB {} true true sJ).time = 4 :=
  have e := C17_backward_eq_old' exB {} true true sJ rfl rfl
  ⟨rfl, rfl, congrArg (putSt exB) e,
    ((congrArg St.time e).symm.trans (C17_time exB {} true true sJ)).trans
      ((congrArg St.time (exB_run_any _)).trans exB_bwd_run.2.1)⟩

/-- **C17 (no hidden state).**  With both flags, the state `backward_simulate` leaves does not
depend on the state it was called on. -/
theorem C17_backward_indep (m : Model) (p : Params) (due rev : Bool) (s s' : St)
    (hs : p.initState = true) (hl : p.initLog = true) :
    backwardSimulate m p due rev s = backwardSimulate m p due rev s' := by
  rw [C17_backward_eq_old m p due rev s hs hl, C17_backward_eq_old m p due rev s' hs hl,
    C09_resim (backwardModel m due) p s s' hs hl]

example : ({} : Params).initState = true ∧ ({} : Params).initLog = true ∧
    putSt exB sJ ≠ putSt exB St.fresh := by decide +kernel

/-- `C17_time` without `bwdStart` -/
theorem C17_time_old (m : Model) (p : Params) (due rev : Bool) (s : St)
    (hs : p.initState = true) (hl : p.initLog = true) :
    (backwardSimulate m p due rev s).time = (simulate (backwardModel m due) p s).time := by
  rw [C17_time, bwdStart_irrelevant m p due s hs hl]

/-- `C17_reversed_log` without `bwdStart` -/
theorem C17_reversed_log_old (m : Model) (p : Params) (due : Bool) (s : St)
    (hs : p.initState = true) (hl : p.initLog = true) (t : Nat) (ht : t < m.nT) :
    (backwardSimulate m p due true s).logs.tState t =
      ((simulate (backwardModel m due) p s).logs.tState t).reverse := by
  rw [C17_reversed_log m p due s t ht, bwdStart_irrelevant m p due s hs hl]

/-- `C17_backward_row` without `bwdStart`: in the logs of the inner run from `s`, whenever `a`
is logged in any state but NONE, each finish-to-start successor `b` of `a` in `m` is logged
FINISHED at the same step -/
theorem C17_backward_row_old (m : Model) (p : Params) (due : Bool) (s : St)
    (hs : p.initState = true) (hl : p.initLog = true) {a b : Nat} (ha : a < m.nT) (hb : b < m.nT)
    (hex : ¬ exempt m a) (hedge : (b, Dep.fs) ∈ (m.task a).outputs) {k : Nat} {x : TS}
    (h : ((simulate (backwardModel m due) p s).logs.tState a)[k]? = some x) (hx : x ≠ .none) :
    ((simulate (backwardModel m due) p s).logs.tState b)[k]? = some .finished := by
  rw [← bwdStart_irrelevant m p due s hs hl] at h ⊢
  exact C17_backward_row m p due s hs hl ha hb hex hedge h hx

/-- `C17_backward_persist` without `bwdStart` -/
theorem C17_backward_persist_old (m : Model) (p : Params) (due : Bool) (s : St)
    (hs : p.initState = true) (hl : p.initLog = true) {b : Nat} (hb : b < m.nT) {k k' : Nat}
    (h : ((simulate (backwardModel m due) p s).logs.tState b)[k]? = some .finished) (hkk : k ≤ k')
    (hk' : k' < (simulate (backwardModel m due) p s).time) :
    ((simulate (backwardModel m due) p s).logs.tState b)[k']? = some .finished := by
  rw [← bwdStart_irrelevant m p due s hs hl] at h hk' ⊢
  exact C17_backward_persist m p due s hl hb h hkk hk'

/-- `C17_backward_order` without `bwdStart`: in the logs of the inner run from `s`, every step
at which the successor `b` is logged WORKING comes strictly before every step at which its
finish-to-start predecessor `a` is -/
theorem C17_backward_order_old (m : Model) (p : Params) (due : Bool) (s : St)
    (hs : p.initState = true) (hl : p.initLog = true) {a b : Nat} (ha : a < m.nT) (hb : b < m.nT)
    (hedge : (b, Dep.fs) ∈ (m.task a).outputs) {i j : Nat}
    (hi : ((simulate (backwardModel m due) p s).logs.tState b)[i]? = some .working)
    (hj : ((simulate (backwardModel m due) p s).logs.tState a)[j]? = some .working) : i < j := by
  rw [← bwdStart_irrelevant m p due s hs hl] at hi hj
  exact C17_backward_order m p due s hs hl ha hb hedge hi hj

example : ({} : Params).initState = true ∧ ({} : Params).initLog = true ∧ ¬ exempt exB 0 ∧
    (1, Dep.fs) ∈ (exB.task 0).outputs ∧
    ((simulate (backwardModel exB true) {} sJ).logs.tState 1)[0]? = some .working ∧
    ((simulate (backwardModel exB true) {} sJ).logs.tState 0)[3]? = some .working := by
  obtain ⟨_, _, h0, h1, _⟩ := exB_bwd_run
  rw [exB_run_any sJ, h0, h1]
  exact ⟨rfl, rfl, by unfold exempt; decide +kernel, by decide +kernel, rfl, rfl⟩

/-- **C17 (frame of the start state).**  `bwdStart m due s` agrees with `s`
* on every live task field (state, remaining work, the four PERT times, the two allocation
  lists) and every task log at every index of a task of `m`,
* on every worker / facility / component / workplace field and on the critical path length
  (as functions: at every index),
* on every worker / facility / team / workplace / component log and the two cost logs,
* on clock, status, mode, stored absence list and auto-task flag.
(The clauses that hold at every index are also `simp` lemmas `Bwd.bwdStart_…` of
Lemmas/BackwardLemmas.) -/
theorem bwdStart_frame (m : Model) (due : Bool) (s : St) :
    (∀ t, t < m.nT →
      (bwdStart m due s).live.tstate t = s.live.tstate t ∧
      (bwdStart m due s).live.rem t = s.live.rem t ∧
      (bwdStart m due s).live.est t = s.live.est t ∧
      (bwdStart m due s).live.eft t = s.live.eft t ∧
      (bwdStart m due s).live.lst t = s.live.lst t ∧
      (bwdStart m due s).live.lft t = s.live.lft t ∧
      (bwdStart m due s).live.allocW t = s.live.allocW t ∧
      (bwdStart m due s).live.allocF t = s.live.allocF t ∧
      (bwdStart m due s).logs.tState t = s.logs.tState t ∧
      (bwdStart m due s).logs.tRem t = s.logs.tRem t ∧
      (bwdStart m due s).logs.tAllocW t = s.logs.tAllocW t ∧
      (bwdStart m due s).logs.tAllocF t = s.logs.tAllocF t) ∧
    ((bwdStart m due s).live.cpl = s.live.cpl ∧
      (bwdStart m due s).live.wstate = s.live.wstate ∧
      (bwdStart m due s).live.wasg = s.live.wasg ∧
      (bwdStart m due s).live.fstate = s.live.fstate ∧
      (bwdStart m due s).live.fasg = s.live.fasg ∧
      (bwdStart m due s).live.cstate = s.live.cstate ∧
      (bwdStart m due s).live.placed = s.live.placed ∧
      (bwdStart m due s).live.wpComps = s.live.wpComps) ∧
    ((bwdStart m due s).logs.wState = s.logs.wState ∧
      (bwdStart m due s).logs.wCost = s.logs.wCost ∧
      (bwdStart m due s).logs.wAsg = s.logs.wAsg ∧
      (bwdStart m due s).logs.fState = s.logs.fState ∧
      (bwdStart m due s).logs.fCost = s.logs.fCost ∧
      (bwdStart m due s).logs.fAsg = s.logs.fAsg ∧
      (bwdStart m due s).logs.teamCost = s.logs.teamCost ∧
      (bwdStart m due s).logs.wpCost = s.logs.wpCost ∧
      (bwdStart m due s).logs.wpPlaced = s.logs.wpPlaced ∧
      (bwdStart m due s).logs.orgCost = s.logs.orgCost ∧
      (bwdStart m due s).logs.projCost = s.logs.projCost ∧
      (bwdStart m due s).logs.cState = s.logs.cState ∧
      (bwdStart m due s).logs.cPlaced = s.logs.cPlaced) ∧
    ((bwdStart m due s).time = s.time ∧ (bwdStart m due s).status = s.status ∧
      (bwdStart m due s).mode = s.mode ∧ (bwdStart m due s).absence = s.absence ∧
      (bwdStart m due s).autoFlag = s.autoFlag) := by
  refine ⟨fun t ht => ?_, by simp, by simp, by simp⟩
  simp only [bwdStart, freshHelpers, if_neg (Nat.not_le_of_lt ht), and_self]

/-- **C17 (the helper slots of the start state).**  At every task index that is not a task of
`m`, `bwdStart m due s` carries the values a freshly constructed task has: state NONE, remaining
work = the (helper) task's work amount × (1 − progress), `est = eft = 0`, `lst = lft = −1`,
nothing allocated, empty logs — whatever `s` says there. -/
theorem bwdStart_helper_slots (m : Model) (due : Bool) (s : St) (t : Nat) (ht : m.nT ≤ t) :
    (bwdStart m due s).live.tstate t = .none ∧
    (bwdStart m due s).live.rem t =
      ((backwardModel m due).task t).work * (1 - ((backwardModel m due).task t).prog) ∧
    (bwdStart m due s).live.est t = 0 ∧ (bwdStart m due s).live.eft t = 0 ∧
    (bwdStart m due s).live.lst t = -1 ∧ (bwdStart m due s).live.lft t = -1 ∧
    (bwdStart m due s).live.allocW t = [] ∧ (bwdStart m due s).live.allocF t = [] ∧
    (bwdStart m due s).logs.tState t = [] ∧ (bwdStart m due s).logs.tRem t = [] ∧
    (bwdStart m due s).logs.tAllocW t = [] ∧ (bwdStart m due s).logs.tAllocF t = [] := by
  simp only [bwdStart, freshHelpers, if_pos ht, and_self]

/-- on `exB` with the dirty state `sJ`: the real task 0 keeps its WORKING state and its worker,
worker 1 keeps its assignment; the helper slot 3 is reset -/
example : (0 : Nat) < exB.nT ∧ exB.nT ≤ 3 ∧
    (bwdStart exB true sJ).live.tstate 0 = .working ∧ (bwdStart exB true sJ).live.allocW 0 = [1] ∧
    (bwdStart exB true sJ).live.wasg 1 = [0] ∧
    (bwdStart exB true sJ).live.tstate 3 = .none ∧ sJ.live.tstate 3 = .finished ∧
    (bwdStart exB true sJ).live.lft 3 = -1 ∧ sJ.live.lft 3 = 9 ∧
    (bwdStart exB true sJ).live.allocW 3 = [] ∧ sJ.live.allocW 3 = [0] := by
  decide +kernel

/-- `bwdStart` forgets what it is applied to at the helper slots: applied twice it is `bwdStart`
applied once -/
theorem bwdStart_bwdStart (m : Model) (due : Bool) (s : St) :
    bwdStart m due (bwdStart m due s) = bwdStart m due s := by
  simp only [bwdStart, freshHelpers, ite_else_ite]

/-- **C17 (alignment of the start state, slots of `m`).**  For any `due`: the logs of the
objects of `m` are aligned in `bwdStart m due s` exactly when they are in `s` (`Aligned m` only
speaks about indices below the sizes of `m`, where `bwdStart` changes nothing). -/
theorem bwdStart_aligned_iff (m : Model) (due : Bool) (s : St) :
    Aligned m (bwdStart m due s) ↔ Aligned m s :=
  aligned_bwdStart_iff_of_le due (Nat.le_refl _)

/-- the number of tasks of the inner run's model: one more per helper target -/
theorem C17_backwardModel_nT (m : Model) (due : Bool) :
    (backwardModel m due).nT = m.nT + (if due then (helperTargets (revDeps m)).length else 0) :=
  backwardModel_nT m due

/-- no helper is added when due times are not considered, or when no reversed head has a due
time below the maximum -/
theorem C17_no_helpers (m : Model) (due : Bool)
    (h : due = false ∨ helperTargets (revDeps m) = []) : (backwardModel m due).nT = m.nT := by
  rcases h with h | h
  · subst h; rfl
  · rw [backwardModel_eq_of_no_targets m due h]; rfl

/-- a model whose two tails have the same due time gets no helper even with `due = true` -/
example : helperTargets (revDeps { exB with task := fun t => { exB.task t with due := 5 } }) = [] ∧
    helperTargets (revDeps exB) ≠ [] := by decide +kernel

/-- **C17 (alignment of the start state, no helpers).**  When the inner run's model has no
helper task (`(backwardModel m due).nT = m.nT`: see `C17_no_helpers`), the hypothesis of
`C17_aligned` about the start state is just alignment of the project: `bwdStart m due s` is
aligned w.r.t. the inner model iff `s` is, iff `s` is aligned w.r.t. `m`. -/
theorem bwdStart_no_helpers (m : Model) (due : Bool) (s : St)
    (hn : (backwardModel m due).nT = m.nT) :
    (Aligned (backwardModel m due) (bwdStart m due s) ↔ Aligned (backwardModel m due) s) ∧
    (Aligned (backwardModel m due) s ↔ Aligned m s) := by
  have E := Extends.backwardModel m due
  refine ⟨aligned_bwdStart_iff_of_le due (Nat.le_of_eq hn),
    ⟨fun h => h.mono (SizesLE.backwardModel m due),
     fun h => h.mono ⟨Nat.le_of_eq hn, Nat.le_of_eq E.nW, Nat.le_of_eq E.nF, Nat.le_of_eq E.nTeam,
       Nat.le_of_eq E.nWp, Nat.le_of_eq E.nC⟩⟩⟩

/-- the two equivalences composed: what `C17_aligned` asks for, in terms of `m` and `s` -/
theorem bwdStart_no_helpers_iff (m : Model) (due : Bool) (s : St)
    (hn : (backwardModel m due).nT = m.nT) :
    Aligned (backwardModel m due) (bwdStart m due s) ↔ Aligned m s :=
  (bwdStart_no_helpers m due s hn).1.trans (bwdStart_no_helpers m due s hn).2

/-- `s2` (two steps of a forward run) is aligned at clock 2; the backward model without due
times has no helper; with due times it has one and then the start state is NOT aligned w.r.t.
the inner model (the helper's fresh logs are empty, the clock says 2) -/
example : Aligned exB s2 ∧ s2.time = 2 ∧ (backwardModel exB false).nT = exB.nT ∧
    Aligned (backwardModel exB false) (bwdStart exB false s2) ∧
    (backwardModel exB true).nT ≠ exB.nT ∧
    ¬ Aligned (backwardModel exB true) (bwdStart exB true s2) :=
  ⟨s2_aligned, s2_facts.1, rfl, s2_facts.2.2.1, by decide, s2_facts.2.1⟩

/-- **C17 (one entry per step, the property's wording).**  An aligned project stays aligned,
whatever the arguments of `backward_simulate`. -/
theorem C17_aligned_any (m : Model) (p : Params) (due rev : Bool) (s : St) (h : Aligned m s) :
    Aligned m (backwardSimulate m p due rev s) :=
  C17_aligned_general m p due rev s (Or.inr h)

/-- the case without `considering_due_time_of_tail_tasks` -/
theorem C17_aligned_of_aligned (m : Model) (p : Params) (rev : Bool) (s : St) (h : Aligned m s) :
    Aligned m (backwardSimulate m p false rev s) :=
  C17_aligned_any m p false rev s h

/-- the case in which no helper is added (the hypothesis `hn` is not needed) -/
theorem C17_aligned_no_helpers (m : Model) (p : Params) (due rev : Bool) (s : St)
    (hn : (backwardModel m due).nT = m.nT) (h : Aligned m s) :
    Aligned m (backwardSimulate m p due rev s) :=
  C17_aligned_any m p due rev s h

/-- a backward run without due times on top of the two forward steps of `s2`, logs kept: the
clock goes on from 2 to 5 and every log has 5 entries -/
example : Aligned exB s2 ∧ pKeep.initLog = false ∧
    (backwardSimulate exB pKeep false true s2).time = 5 ∧
    ((backwardSimulate exB pKeep false true s2).logs.tState 0).length = 5 ∧
    Aligned exB (backwardSimulate exB pKeep false true s2) :=
  have ⟨_, _, _, h1, h2, h3, _⟩ := s2_facts
  ⟨s2_aligned, rfl, h1, h2, h3⟩

/-- the case `C17_aligned` does not cover: `due = true` (one helper), `initialize_log_info = False`,
an aligned project whose clock is 2.  The start state is not aligned w.r.t. the inner model, and
neither is the result (the helper's log has the 4 entries of this run, the clock says 6) — but
the logs of the three real tasks, the two workers, the team, the workplaces and the cost logs
all have 6 entries, reversed or not. -/
example : Aligned exB s2 ∧ s2.time = 2 ∧ pKeep.initLog = false ∧
    ¬ Aligned (backwardModel exB true) (bwdStart exB true s2) ∧
    (backwardSimulate exB pKeep true false s2).time = 6 ∧
    ((backwardSimulate exB pKeep true false s2).logs.tState 3).length = 4 ∧
    ¬ Aligned (backwardModel exB true) (backwardSimulate exB pKeep true false s2) ∧
    Aligned exB (backwardSimulate exB pKeep true false s2) ∧
    Aligned exB (backwardSimulate exB pKeep true true s2) :=
  have ⟨h1, h2, _, _, _, _, h3⟩ := s2_facts
  ⟨s2_aligned, h1, rfl, h2, h3⟩

end PDesy

#print axioms PDesy.bwdStart_irrelevant
#print axioms PDesy.C17_backward_eq_old
#print axioms PDesy.C17_backward_eq_old'
#print axioms PDesy.C17_backward_indep
#print axioms PDesy.C17_time_old
#print axioms PDesy.C17_reversed_log_old
#print axioms PDesy.C17_backward_row_old
#print axioms PDesy.C17_backward_persist_old
#print axioms PDesy.C17_backward_order_old
#print axioms PDesy.bwdStart_frame
#print axioms PDesy.bwdStart_helper_slots
#print axioms PDesy.bwdStart_bwdStart
#print axioms PDesy.bwdStart_aligned_iff
#print axioms PDesy.C17_backwardModel_nT
#print axioms PDesy.C17_no_helpers
#print axioms PDesy.bwdStart_no_helpers
#print axioms PDesy.bwdStart_no_helpers_iff
#print axioms PDesy.C17_aligned_any
#print axioms PDesy.C17_aligned_of_aligned
#print axioms PDesy.C17_aligned_no_helpers
