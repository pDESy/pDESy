/-
  PDesy.Props.C05Live — liveness half of C05, "Every feasible project completes".

  AS SPECIFIED (not true in this generality, see the counterexamples at the end): a project whose
  dependency graph is acyclic and in which every non-automatic unfinished task has an eligible
  worker who is eventually present completes successfully (status SUCCESS) whenever `max_time`
  exceeds the total sequential work bound.

  PROVED for fragment L (`Live_.FragL m rk R`, Lemmas/LiveGate.lean): no task needs a facility;
  automatic tasks have no component and a positive rate (no sign condition on `work` / `progress`:
  the count `⌈rem₀ / δ⌉` is 0 when `rem₀ ≤ 0`); FS/SS links only; an acyclic in-range graph (rank
  function `rk`); every non-automatic task has an eligible worker of the organisation
  (`Elig.WorkerElig`: skill > 0, the worker's team targets the task, the task's fixed worker list,
  if any, contains the worker) among those relied upon (`R w = true`).  Workers may be shared and
  individually absent: absence lists are finite, so every worker "is eventually present", and the
  absence steps of the relied-upon workers enter the bound.  Solo workers only when every worker is
  relied upon.  Non-automatic tasks may have a component: placement never gates a worker-only task.
  With `initialize_state_info = True`, if `time₀ + bound ≤ max_time` (`time₀ = 0` after `log_info = True`)
  the run returns SUCCESS, every task FINISHED, at a time `≤ time₀ + bound`, where
      bound m p R = |p.absence| + Σ_{w < nW, R w} |absence w| + Σ_{t < nT} (3 + ⌈rem₀ t / δ_t⌉),
  `rem₀ t = work · (1 - progress)` and `δ_t` = the rate of an automatic task, else the least skill
  among the workers eligible for `t` (`Live_.delta`).  (`bound ≤ max_time` is weaker than
  "`max_time` exceeds the bound".)

  OUTSIDE THE FRAGMENT (not claimed; the first two are refuted below, on the real pDESy too):
    * FF / SF links with a shared worker: a task that has done its work but waits for its finish
      gate keeps its workers, and can thereby starve the very predecessor it waits for
      (`C05_live_full_counterexample_FF`; `Props/C05LiveGate.lean` proves the property for FF / SF
      links under its own premise, a worker of one's own);
    * facilities / components: a task that needs a facility gets a worker only together with a
      facility of the workplace its component is placed in; the property's premise only speaks of
      workers (`C05_live_full_counterexample_facility`), and placement can wait for space forever;
    * automatic tasks bound to a component (they wait for the placement);
    * solo workers when only some workers are relied upon (the bound must then count the absence
      steps of whoever occupies the task);
    * links to tasks outside `0 … nT-1`, cyclic graphs, `autoRate ≤ 0`.

  The theorems instantiate `mu_iter_lt`, `loop_success`, `simulate_success`, `simulate_success_zero`
  (Lemmas/Live) through `FragL.toLG`, and `Ded.step` (Lemmas/LiveGate).
-/
import PDesy.Lemmas.LiveGate
import PDesy.Lemmas.Fast

namespace PDesy
open Live_ Elig

/-- **C05 (liveness, measure).**  In fragment L, from a state satisfying the invariants of C03/C04
(`Live_.Inv`), an iteration of the loop that does not exit through SUCCESS (some task is
unfinished after `__update`) decreases the natural number
`mu = (project absence steps to come) + (absence steps to come of the relied-upon workers)
      + Σ_t (lifecycle stages ahead of t + ⌈rem t / δ_t⌉)`, and preserves the invariants. -/
theorem C05_live_measure (m : Model) (rk : Nat → Nat) (R : Nat → Bool) (p : Params)
    (hF : FragL m rk R) (s : St) (hI : Inv m s.live)
    (hnf : allFinished m (updated m s).live = false) :
    mu m p R (iter m p s) + 1 ≤ mu m p R s ∧ Inv m (iter m p s).live :=
  ⟨mu_iter_lt hF.toLG hI hnf, Inv_iter p hI⟩

/-- **C05 (liveness, loop level).**  In fragment L, start the loop from a state `s` that
satisfies the invariants, with `n ≥ mu s` steps left before `max_time` (`s.time + n ≤ max_time`)
and enough fuel: the loop returns SUCCESS, at a time `≤ s.time + n`, with every task FINISHED. -/
theorem C05_live_loop (m : Model) (rk : Nat → Nat) (R : Nat → Bool) (p : Params)
    (hF : FragL m rk R) (n fuel : Nat) (s : St) (hI : Inv m s.live) (hmu : mu m p R s ≤ n)
    (htime : s.time + n ≤ p.maxTime) (hfuel : n + 1 ≤ fuel) :
    (loop m p fuel s).status = .success ∧ (loop m p fuel s).time ≤ s.time + n ∧
    allFinished m (loop m p fuel s).live = true :=
  loop_success hF.toLG n fuel s hI hmu htime hfuel

/-- **C05 (liveness, any set of relied-upon workers).**  In fragment L (`FragL m rk R`), a run
with `initialize_state_info = True` whose `max_time` leaves room for `bound m p R` steps after the time
the loop is entered returns SUCCESS, every task FINISHED, at most `bound m p R` steps later. -/
theorem C05_live_relied (m : Model) (rk : Nat → Nat) (R : Nat → Bool) (p : Params) (s : St)
    (hF : FragL m rk R) (hs : p.initState = true)
    (hb : (enter m p s).time + bound m p R ≤ p.maxTime) :
    (simulate m p s).status = .success ∧
    (simulate m p s).time ≤ (enter m p s).time + bound m p R ∧
    allFinished m (simulate m p s).live = true :=
  simulate_success hF.toLG s hs hb

/-- **C05 (liveness, fragment L).**  Every feasible project of fragment L completes, every worker
being relied upon (the design's fragment L and bound): a run with
`initialize_state_info = initialize_log_info = True` and
`max_time ≥ |p.absence| + Σ_w |absence w| + Σ_t (3 + ⌈rem₀ t / δ_t⌉)` returns SUCCESS with every task
FINISHED, at a time no later than that bound.  Workers may be shared, solo, and individually absent. -/
theorem C05_live_partial (m : Model) (rk : Nat → Nat) (p : Params) (s : St)
    (hF : FragL m rk (fun _ => true)) (hs : p.initState = true) (hl : p.initLog = true)
    (hb : bound m p (fun _ => true) ≤ p.maxTime) :
    (simulate m p s).status = .success ∧
    (simulate m p s).time ≤ bound m p (fun _ => true) ∧
    allFinished m (simulate m p s).live = true :=
  simulate_success_zero hF.toLG s hs hl hb

/-- **C05 (liveness, shared never-absent workers).**  If in fragment L every non-automatic task
has an eligible worker that is never individually absent (and no worker is solo, or all workers
are never absent), the bound needs no worker term:
`max_time ≥ |p.absence| + Σ_t (3 + ⌈rem₀ t / δ_t⌉)` suffices. -/
theorem C05_live_shared (m : Model) (rk : Nat → Nat) (p : Params) (s : St)
    (hF : FragL m rk (neverAbsent m)) (hs : p.initState = true) (hl : p.initLog = true)
    (hb : seqBound m p ≤ p.maxTime) :
    (simulate m p s).status = .success ∧
    (simulate m p s).time ≤ seqBound m p ∧
    allFinished m (simulate m p s).live = true := by
  rw [← bound_neverAbsent] at hb ⊢
  exact simulate_success_zero hF.toLG s hs hl hb

/-- **C05 (liveness, dedicated workers).**  Fragment `Ded m rk d`: as fragment L, no solo worker,
and every non-automatic task `t` has a worker `d t` of its own — eligible for `t`, never
individually absent, eligible for no other task.  Same bound as `C05_live_shared`. -/
theorem C05_live_dedicated (m : Model) (rk d : Nat → Nat) (p : Params) (s : St)
    (hD : Ded m rk d) (hs : p.initState = true) (hl : p.initLog = true)
    (hb : seqBound m p ≤ p.maxTime) :
    (simulate m p s).status = .success ∧
    (simulate m p s).time ≤ seqBound m p ∧
    allFinished m (simulate m p s).live = true :=
  C05_live_shared m rk p s hD.toL hs hl hb

/-- **C05 (liveness, dedicated workers, every step).**  In the dedicated fragment, on a working
step, every non-automatic task `t < nT` that is READY or WORKING after `__update` ends the step
WORKING, holds its dedicated worker, has lost at least `δ_t` of its remaining work, and its
potential `phi` (stages ahead + `⌈rem/δ_t⌉`) has dropped: tasks advance in parallel. -/
theorem C05_live_dedicated_step (m : Model) (rk d : Nat → Nat) (p : Params) (hD : Ded m rk d)
    (s : St) (hI : Inv m s.live) (hwork : p.absence.contains s.time = false) (t : Nat)
    (ht : t < m.nT) (ha : (m.task t).isAuto = false)
    (hu : (updated m s).live.tstate t = .ready ∨ (updated m s).live.tstate t = .working) :
    d t ∈ (iter m p s).live.allocW t ∧ (iter m p s).live.tstate t = .working ∧
    (iter m p s).live.rem t ≤ (updated m s).live.rem t - delta m t ∧
    phi m (iter m p s).live t + 1 ≤ phi m s.live t :=
  hD.step hI hwork ht ha hu

/-- the invariants the loop-level statements ask for hold when the loop is entered after
`initialize(state_info=True)` -/
theorem C05_live_inv_enter (m : Model) (p : Params) (s : St) (hs : p.initState = true) :
    Inv m (enter m p s).live := Inv_enter hs s

namespace C05LiveEx

/-- three tasks: 0 (work 2) —FS→ 1 (work 3/2), 0 —SS→ 2 (automatic, work 1, rate 1/2);
worker 0 can do tasks 0 and 1 (skills 1 and 1/2) and is absent at step 2; worker 1 can do task 1 -/
def mL : Model where
  nT := 3
  nW := 2
  nF := 0
  nTeam := 1
  nWp := 0
  nC := 0
  task := fun t =>
    if t = 0 then { name := 0, work := 2, outputs := [(1, .fs), (2, .ss)] }
    else if t = 1 then { name := 1, work := 3/2, inputs := [(0, .fs)] }
    else { name := 2, work := 1, isAuto := true, autoRate := 1/2, inputs := [(0, .ss)] }
  worker := fun w =>
    if w = 0 then { team := 0, skills := [(0, 1), (1, 1/2)], absence := [2] }
    else { team := 0, skills := [(1, 1)] }
  fac := fun _ => {}
  team := fun _ => { workers := [0, 1], targets := [0, 1] }
  wp := fun _ => {}
  comp := fun _ => {}

def pL : Params := { absence := [1], maxTime := 20 }

theorem mL_frag : FragL mL id (fun _ => true) where
  noFac := by decide +kernel
  autoNoComp := by decide +kernel
  noFin := by decide +kernel
  graph := by decide +kernel
  autoRate := by decide +kernel
  solo := by decide +kernel
  served := by decide +kernel

/-- the run of `mL` under `pL`, evaluated once -/
theorem mL_run :
    (simulate mL pL St.fresh).status = .success ∧ (simulate mL pL St.fresh).time = 5 ∧
    ((runTrace mL pL St.fresh).map fun s =>
      (s.time, s.live.tstate 0, s.live.tstate 1, s.live.tstate 2, s.live.allocW 1)) =
    [(1, .working, .none, .none, []), (2, .working, .none, .ready, []),
     (3, .working, .none, .working, []), (4, .working, .none, .working, []),
     (5, .finished, .working, .finished, [1, 0])] ∧
    ((runTrace mL pL St.fresh).map fun s => s.live.rem 0) = [1, 1, 1, 0, 0] := by
  simp only [Fast.simulate_fast, Fast.runTrace_fast]; decide +kernel

/-- 1 project absence step + 1 worker absence step + (3+2) + (3+3) + (3+2) -/
theorem mL_bound : bound mL pL (fun _ => true) = 18 := by decide +kernel

/-- the same project with worker 0 solo: still in fragment L when every worker is relied upon -/
def mS : Model :=
  { mL with worker := fun w => if w = 0 then { mL.worker 0 with solo := true } else mL.worker w }

theorem mS_frag : FragL mS id (fun _ => true) where
  noFac := by decide +kernel
  autoNoComp := by decide +kernel
  noFin := by decide +kernel
  graph := by decide +kernel
  autoRate := by decide +kernel
  solo := by decide +kernel
  served := by decide +kernel

/-- three tasks with a worker of their own for the two non-automatic ones:
0 (work 2, worker 0) —FS→ 1 (work 3/2, worker 1), 0 —SS→ 2 (automatic) -/
def mD : Model where
  nT := 3
  nW := 2
  nF := 0
  nTeam := 2
  nWp := 0
  nC := 0
  task := fun t =>
    if t = 0 then { name := 0, work := 2, outputs := [(1, .fs), (2, .ss)] }
    else if t = 1 then { name := 1, work := 3/2, inputs := [(0, .fs)] }
    else { name := 2, work := 1, isAuto := true, autoRate := 1/2, inputs := [(0, .ss)] }
  worker := fun w =>
    if w = 0 then { team := 0, skills := [(0, 1)] } else { team := 1, skills := [(1, 1/2)] }
  fac := fun _ => {}
  team := fun tm => if tm = 0 then { workers := [0], targets := [0] } else { workers := [1], targets := [1] }
  wp := fun _ => {}
  comp := fun _ => {}

theorem mD_ded : Ded mD id id where
  noFac := by decide +kernel
  autoNoComp := by decide +kernel
  noFin := by decide +kernel
  graph := by decide +kernel
  autoRate := by decide +kernel
  noSolo := by decide +kernel
  ded := by decide +kernel
  excl := by decide +kernel

/-- 1 project absence step + (3+2) + (3+3) + (3+2) -/
theorem mD_bound : seqBound mD pL = 17 := by decide +kernel

end C05LiveEx

/-- premises of `C05_live_partial` on the shared-worker model: fragment, flags, and the bound
(`C05LiveEx.mL_bound`) is within `max_time = 20`; the run indeed succeeds (after 5 steps) -/
example : FragL C05LiveEx.mL id (fun _ => true) ∧ C05LiveEx.pL.initState = true ∧
    C05LiveEx.pL.initLog = true ∧ bound C05LiveEx.mL C05LiveEx.pL (fun _ => true) = 18 ∧
    bound C05LiveEx.mL C05LiveEx.pL (fun _ => true) < C05LiveEx.pL.maxTime ∧
    (simulate C05LiveEx.mL C05LiveEx.pL St.fresh).status = .success ∧
    (simulate C05LiveEx.mL C05LiveEx.pL St.fresh).time = 5 :=
  ⟨C05LiveEx.mL_frag, rfl, rfl, C05LiveEx.mL_bound, by rw [C05LiveEx.mL_bound]; decide,
   C05LiveEx.mL_run.1, C05LiveEx.mL_run.2.1⟩

/-- … and what the theorem gives for it -/
example : (simulate C05LiveEx.mL C05LiveEx.pL St.fresh).status = .success :=
  (C05_live_partial C05LiveEx.mL id C05LiveEx.pL St.fresh C05LiveEx.mL_frag rfl rfl
    (by rw [C05LiveEx.mL_bound]; decide)).1

/-- the run is not trivial: task 0 WORKING with worker 0 (stalled at the project absence step 1 and
at the worker's absence step 2), then task 1 with both workers; the automatic task runs alongside
(it becomes READY at the project absence step 1, where nothing starts, and is started at step 2) -/
example : ((runTrace C05LiveEx.mL C05LiveEx.pL St.fresh).map fun s =>
      (s.time, s.live.tstate 0, s.live.tstate 1, s.live.tstate 2, s.live.allocW 1)) =
    [(1, .working, .none, .none, []), (2, .working, .none, .ready, []),
     (3, .working, .none, .working, []), (4, .working, .none, .working, []),
     (5, .finished, .working, .finished, [1, 0])] ∧
    ((runTrace C05LiveEx.mL C05LiveEx.pL St.fresh).map fun s => s.live.rem 0) = [1, 1, 1, 0, 0] :=
  C05LiveEx.mL_run.2.2

/-- premises of `C05_live_partial` with a solo worker -/
example : FragL C05LiveEx.mS id (fun _ => true) ∧ (C05LiveEx.mS.worker 0).solo = true ∧
    bound C05LiveEx.mS C05LiveEx.pL (fun _ => true) ≤ C05LiveEx.pL.maxTime ∧
    (simulate C05LiveEx.mS C05LiveEx.pL St.fresh).status = .success :=
  have hb : bound C05LiveEx.mS C05LiveEx.pL (fun _ => true) ≤ C05LiveEx.pL.maxTime := by
    decide +kernel
  ⟨C05LiveEx.mS_frag, rfl, hb,
    (C05_live_partial _ id _ St.fresh C05LiveEx.mS_frag rfl rfl hb).1⟩

/-- premises of `C05_live_relied` for a continued clock (`log_info = False` keeps `time`) -/
example : ({ C05LiveEx.pL with initLog := false, maxTime := 30 } : Params).initState = true ∧
    (enter C05LiveEx.mL { C05LiveEx.pL with initLog := false, maxTime := 30 }
      { St.fresh with time := 7 }).time +
      bound C05LiveEx.mL { C05LiveEx.pL with initLog := false, maxTime := 30 } (fun _ => true) ≤ 30 := by
  decide +kernel

/-- premises of `C05_live_dedicated` (and so of `C05_live_shared`, through `Ded.toL`): the
bound (`C05LiveEx.mD_bound`) is within `max_time = 20`, and the run succeeds -/
example : Ded C05LiveEx.mD id id ∧ FragL C05LiveEx.mD id (neverAbsent C05LiveEx.mD) ∧
    seqBound C05LiveEx.mD C05LiveEx.pL = 17 ∧ seqBound C05LiveEx.mD C05LiveEx.pL < C05LiveEx.pL.maxTime ∧
    (simulate C05LiveEx.mD C05LiveEx.pL St.fresh).status = .success :=
  have hb : seqBound C05LiveEx.mD C05LiveEx.pL < C05LiveEx.pL.maxTime := by
    rw [C05LiveEx.mD_bound]; decide
  ⟨C05LiveEx.mD_ded, C05LiveEx.mD_ded.toL, C05LiveEx.mD_bound, hb,
    (C05_live_dedicated _ id id _ St.fresh C05LiveEx.mD_ded rfl rfl (Nat.le_of_lt hb)).1⟩

/-- premises of `C05_live_measure`, `C05_live_loop`, `C05_live_dedicated_step` at the state the run
enters its loop with: invariants, a working step, an unfinished task, task 0 READY after
`__update`; and the measure there is within the bound -/
example : Inv C05LiveEx.mD (enter C05LiveEx.mD C05LiveEx.pL St.fresh).live ∧
    C05LiveEx.pL.absence.contains (enter C05LiveEx.mD C05LiveEx.pL St.fresh).time = false ∧
    allFinished C05LiveEx.mD (updated C05LiveEx.mD (enter C05LiveEx.mD C05LiveEx.pL St.fresh)).live = false ∧
    (updated C05LiveEx.mD (enter C05LiveEx.mD C05LiveEx.pL St.fresh)).live.tstate 0 = .ready ∧
    (C05LiveEx.mD.task 0).isAuto = false ∧
    mu C05LiveEx.mD C05LiveEx.pL (neverAbsent C05LiveEx.mD) (enter C05LiveEx.mD C05LiveEx.pL St.fresh) = 16 :=
  ⟨C05_live_inv_enter _ _ _ rfl, by decide +kernel, by decide +kernel, by decide +kernel, rfl,
   by decide +kernel⟩

namespace C05LiveEx

/-- task 1 (work 1) must FINISH after task 0 (work 5) has finished (FF); one worker can do both -/
def mFF : Model where
  nT := 2
  nW := 1
  nF := 0
  nTeam := 1
  nWp := 0
  nC := 0
  task := fun t =>
    if t = 0 then { name := 0, work := 5, outputs := [(1, .ff)] }
    else { name := 1, work := 1, inputs := [(0, .ff)] }
  worker := fun _ => { team := 0, skills := [(0, 1), (1, 1)] }
  fac := fun _ => {}
  team := fun _ => { workers := [0], targets := [0, 1] }
  wp := fun _ => {}
  comp := fun _ => {}

/-- one task that needs a facility; there is an eligible worker but no facility at all -/
def mNF : Model where
  nT := 1
  nW := 1
  nF := 0
  nTeam := 1
  nWp := 0
  nC := 0
  task := fun _ => { name := 0, work := 1, needFac := true }
  worker := fun _ => { team := 0, skills := [(0, 1)] }
  fac := fun _ => {}
  team := fun _ => { workers := [0], targets := [0] }
  wp := fun _ => {}
  comp := fun _ => {}

end C05LiveEx

/-- **Counterexample to the full statement (FF link, shared worker).**  `mFF` is acyclic, has no
facility, no absence, and every task has an eligible, never absent worker.  Under the SPT rule
the worker goes to the shorter task 1 first; after one step task 1 has no work left but must wait
for task 0 to finish (FF), stays WORKING and keeps the worker (its remaining work goes negative),
so task 0 never starts: the run ends FAILURE at `max_time`, whatever `max_time` (here 12, far
above the sequential work 6).  With the default TSLACK rule the same project succeeds.  Replayed
on the real pDESy: status FAILURE, A READY, B WORKING with remaining work −11 at time 12. -/
theorem C05_live_full_counterexample_FF :
    (∀ t, t < C05LiveEx.mFF.nT → (C05LiveEx.mFF.task t).needFac = false ∧
      ∃ w, w < C05LiveEx.mFF.nW ∧ WorkerElig C05LiveEx.mFF t w ∧
        (C05LiveEx.mFF.worker w).absence = []) ∧
    (∀ t, t < C05LiveEx.mFF.nT → ∀ e ∈ (C05LiveEx.mFF.task t).inputs, e.1 < t) ∧
    (simulate C05LiveEx.mFF { rule := .spt, maxTime := 12 } St.fresh).status = .failure ∧
    (simulate C05LiveEx.mFF { rule := .spt, maxTime := 12 } St.fresh).live.tstate 0 = .ready ∧
    (simulate C05LiveEx.mFF { rule := .spt, maxTime := 12 } St.fresh).live.tstate 1 = .working ∧
    (simulate C05LiveEx.mFF { rule := .spt, maxTime := 12 } St.fresh).live.rem 1 = -11 ∧
    (simulate C05LiveEx.mFF { rule := .spt, maxTime := 12 } St.fresh).live.allocW 1 = [0] ∧
    (simulate C05LiveEx.mFF { rule := .tslack, maxTime := 12 } St.fresh).status = .success := by
  simp only [Fast.simulate_fast]; decide +kernel

/-- **Counterexample to the full statement (facility).**  The only task of `mNF` has an eligible,
never absent worker, but needs a facility and there is none: it never starts. -/
theorem C05_live_full_counterexample_facility :
    (∃ w, w < C05LiveEx.mNF.nW ∧ WorkerElig C05LiveEx.mNF 0 w ∧
      (C05LiveEx.mNF.worker w).absence = []) ∧
    (simulate C05LiveEx.mNF { maxTime := 12 } St.fresh).status = .failure ∧
    (simulate C05LiveEx.mNF { maxTime := 12 } St.fresh).live.tstate 0 = .ready := by
  simp only [Fast.simulate_fast]; decide +kernel

end PDesy

#print axioms PDesy.C05_live_measure
#print axioms PDesy.C05_live_loop
#print axioms PDesy.C05_live_relied
#print axioms PDesy.C05_live_partial
#print axioms PDesy.C05_live_shared
#print axioms PDesy.C05_live_dedicated
#print axioms PDesy.C05_live_dedicated_step
#print axioms PDesy.C05_live_inv_enter
#print axioms PDesy.C05_live_full_counterexample_FF
#print axioms PDesy.C05_live_full_counterexample_facility
