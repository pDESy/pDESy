/-
  PDesy.Props.C11Pairs — property C11 (second half), "allocation never inverts the priority
  order", in its worker–facility-PAIR form, for a higher-priority task that needs a facility.

  `Props/C11Inv.lean` proves the clause for a higher-priority task `t1` without facility.  Here
  `t1` needs a facility and is the single task of its component `c1`, which the pass leaves at
  workplace `p`:

  * worker side (`C11_no_inversion_pair`): a worker `w` newly given to a later task `t2`, and a
    facility `f` of `p` that is still FREE after the pass, both eligible for `t1`: `t1` cannot
    accept the pair, `canAdd m l' t1 (some w) (some f) = false`.  (At `t1`'s turn `w` was still in
    the free list and `f` was offered; the refusal persists.)
  * facility side (`C11_no_inversion_fac`): a facility `f` of `p` newly given to a later task
    `t2`, and a worker `w` still FREE and idle after the pass, both eligible for `t1`.  Read in
    the final state `canAdd … (some f)` is false for the trivial reason that `f` is now taken, so
    the statement is made about the state with `f` handed back (`Pairs.freed l' f`: `fasg f`
    emptied): even then `t1` cannot accept the pair — it refused it for another, persistent
    reason.

  "`t1` before `t2`" = `List.Sublist [t1, t2] (sortTasks m l lg rule (NoWait.cands m l))`, as in
  `Props/C11Inv.lean`.  "Eligible": positive skill for the task and team (worker) / workplace
  (facility) assigned to the task.  The single-task hypothesis is needed for the same reason as in
  `Props/C06Pairs.lean` (a component with several tasks may be moved after `t1`'s turn).

  The theorems instantiate `allocate_no_inversion`, `stepBody_no_inversion` at `Offered.pair` and
  `allocate_no_inversion_fac` (Lemmas/NoWait).
-/
import PDesy.Lemmas.NoWait

namespace PDesy

/-- **C11, no inversion, pair form (worker side).**  Let `l' = allocate m lg rule l`.  If `t1`
comes before `t2` in the sorted candidate list, `t1` is not automatic, needs a facility and is the
single task of its component `c` (`hlink`: every task below `nT` that names `c` as its component
is listed by `c`; `hsingle`: `c` lists `t1` only), `c` is placed at `p` in `l'`, a worker `w` is
newly given to `t2` by this pass (`w ∈ l'.allocW t2`, `w ∉ l.allocW t2`), a facility `f` of `p` is
FREE in `l'`, and `f` and `w` are eligible for `t1`, then `t1` cannot accept the pair:
`canAdd m l' t1 (some w) (some f) = false`.

No invariant of the incoming state is needed; `l'.fasg f = []` is not needed either (an assigned
facility is refused anyway). -/
theorem C11_no_inversion_pair (m : Model) (lg : Logs) (rule : TaskRule) (l : Live)
    (t1 t2 w c p f : Nat)
    (hord : List.Sublist [t1, t2] (sortTasks m l lg rule (NoWait.cands m l)))
    (hna : (m.task t1).isAuto = false) (hnf : (m.task t1).needFac = true)
    (hc : (m.task t1).comp = some c)
    (hlink : ∀ t', t' < m.nT → (m.task t').comp = some c → t' ∈ (m.comp c).tasks)
    (hsingle : (m.comp c).tasks = [t1])
    (hp : (allocate m lg rule l).placed c = some p)
    (hnew : w ∈ (allocate m lg rule l).allocW t2) (hold : w ∉ l.allocW t2)
    (hf : f ∈ (m.wp p).facs) (hff : (allocate m lg rule l).fstate f = .free)
    (hskillF : hasSkill (m.fac f).skills (m.task t1).name = true) (htar : wpTargets m f t1 = true)
    (hskill : hasSkill (m.worker w).skills (m.task t1).name = true)
    (hteam : teamTargets m w t1 = true) :
    canAdd m (allocate m lg rule l) t1 (some w) (some f) = false :=
  NoWait.allocate_no_inversion m lg rule l hord hna
    (.pair hnf hc (.of_tasks hlink hsingle) hp hf hff hskillF htar) hnew hold hskill hteam

/-- `C11_no_inversion_pair` for a model that satisfies the placement well-formedness predicate
`PlaceWF` (flat product, consistent task → component links, …). -/
theorem C11_no_inversion_pair_wf (m : Model) (wf : Place.PlaceWF m) (lg : Logs) (rule : TaskRule)
    (l : Live) (t1 t2 w c p f : Nat)
    (hord : List.Sublist [t1, t2] (sortTasks m l lg rule (NoWait.cands m l)))
    (hna : (m.task t1).isAuto = false) (hnf : (m.task t1).needFac = true)
    (hc : (m.task t1).comp = some c) (hsingle : (m.comp c).tasks = [t1])
    (hp : (allocate m lg rule l).placed c = some p)
    (hnew : w ∈ (allocate m lg rule l).allocW t2) (hold : w ∉ l.allocW t2)
    (hf : f ∈ (m.wp p).facs) (hff : (allocate m lg rule l).fstate f = .free)
    (hskillF : hasSkill (m.fac f).skills (m.task t1).name = true) (htar : wpTargets m f t1 = true)
    (hskill : hasSkill (m.worker w).skills (m.task t1).name = true)
    (hteam : teamTargets m w t1 = true) :
    canAdd m (allocate m lg rule l) t1 (some w) (some f) = false :=
  NoWait.allocate_no_inversion m lg rule l hord hna
    (.pair hnf hc (.of_wf wf hsingle) hp hf hff hskillF htar) hnew hold hskill hteam

/-- **C11, no inversion, pair form**, contrapositive reading: a worker who, together with a FREE
facility of `p`, is eligible for `t1` and whom `t1` could still accept with that facility after
the pass has not been newly given to any later task `t2`. -/
theorem C11_no_inversion_pair' (m : Model) (lg : Logs) (rule : TaskRule) (l : Live)
    (t1 t2 w c p f : Nat)
    (hord : List.Sublist [t1, t2] (sortTasks m l lg rule (NoWait.cands m l)))
    (hna : (m.task t1).isAuto = false) (hnf : (m.task t1).needFac = true)
    (hc : (m.task t1).comp = some c)
    (hlink : ∀ t', t' < m.nT → (m.task t').comp = some c → t' ∈ (m.comp c).tasks)
    (hsingle : (m.comp c).tasks = [t1])
    (hp : (allocate m lg rule l).placed c = some p)
    (hf : f ∈ (m.wp p).facs) (hff : (allocate m lg rule l).fstate f = .free)
    (hskillF : hasSkill (m.fac f).skills (m.task t1).name = true) (htar : wpTargets m f t1 = true)
    (hskill : hasSkill (m.worker w).skills (m.task t1).name = true)
    (hteam : teamTargets m w t1 = true)
    (hcan : canAdd m (allocate m lg rule l) t1 (some w) (some f) = true) :
    w ∈ (allocate m lg rule l).allocW t2 → w ∈ l.allocW t2 := fun hnew =>
  Decidable.byContradiction fun hold => Bool.false_ne_true
    ((C11_no_inversion_pair m lg rule l t1 t2 w c p f hord hna hnf hc hlink hsingle hp hnew hold
      hf hff hskillF htar hskill hteam).symm.trans hcan)

/-- **C11, no inversion, pair form, in one loop step.**  On a working step, starting from a state
that satisfies the allocation invariant (with every holder WORKING): if `t1` comes before `t2` in
the candidate order of `s.live` (with the logs `s.logs`), `t1` is not automatic, needs a facility
and is the single task of its component `c`, which sits at `q` at the end of the step, `w` is held
by `t2` at the end of the step but was not before, a facility `f < nF` of `q` is FREE at the end
of the step, and `f` and `w` are eligible for `t1`, then at the end of the step `t1` cannot accept
the pair. -/
theorem C11_no_inversion_pair_step (m : Model) (p : Params) (s : St)
    (hwork : p.absence.contains s.time = false)
    (hinv : AllocInv m s.live) (hhw : HoldWorking s.live) (t1 t2 w c q f : Nat)
    (hord : List.Sublist [t1, t2] (sortTasks m s.live s.logs p.rule (NoWait.cands m s.live)))
    (hna : (m.task t1).isAuto = false) (hnf : (m.task t1).needFac = true)
    (hc : (m.task t1).comp = some c)
    (hlink : ∀ t', t' < m.nT → (m.task t').comp = some c → t' ∈ (m.comp c).tasks)
    (hsingle : (m.comp c).tasks = [t1])
    (hp : (stepBody m p s).live.placed c = some q)
    (hnew : w ∈ (stepBody m p s).live.allocW t2) (hold : w ∉ s.live.allocW t2)
    (hfl : f < m.nF) (hff : (stepBody m p s).live.fstate f = .free) (hf : f ∈ (m.wp q).facs)
    (hskillF : hasSkill (m.fac f).skills (m.task t1).name = true) (htar : wpTargets m f t1 = true)
    (hskill : hasSkill (m.worker w).skills (m.task t1).name = true)
    (hteam : teamTargets m w t1 = true) :
    canAdd m (stepBody m p s).live t1 (some w) (some f) = false :=
  NoWait.stepBody_no_inversion m p s hwork hord hna
    (NoWait.stepBody_offered m p s hwork hinv hhw (fun _ e => Option.some.inj e ▸ hfl)
      (.pair hnf hc (.of_tasks hlink hsingle) hp hf hff hskillF htar)) hnew hold hskill hteam

/-- **C11, no inversion, pair form (facility side).**  Let `l' = allocate m lg rule l`.  If `t1`
comes before `t2` in the sorted candidate list, `t1` is not automatic, needs a facility and is the
single task of its component `c`, placed at `p` in `l'`, a facility `f` of `p` that is FREE in `l'`
(a pass does not change facility states) is newly given to `t2` by this pass (`f ∈ l'.allocF t2`,
`f ∉ l.allocF t2`), a worker `w < nW` is FREE and holds nothing in `l'`, and `f` and `w` are
eligible for `t1`, then `t1` could not accept the pair even if `f` were handed back:
`canAdd m (Pairs.freed l' f) t1 (some w) (some f) = false`,
where `Pairs.freed l' f` is `l'` with `fasg f` emptied.  (`f` was unassigned up to `t2`'s turn, so
at `t1`'s turn it was offered with `w` in the free list and refused for a reason other than "`f`
is taken", and such reasons persist.) -/
theorem C11_no_inversion_fac (m : Model) (lg : Logs) (rule : TaskRule) (l : Live)
    (t1 t2 w c p f : Nat)
    (hord : List.Sublist [t1, t2] (sortTasks m l lg rule (NoWait.cands m l)))
    (hna : (m.task t1).isAuto = false) (hnf : (m.task t1).needFac = true)
    (hc : (m.task t1).comp = some c)
    (hlink : ∀ t', t' < m.nT → (m.task t').comp = some c → t' ∈ (m.comp c).tasks)
    (hsingle : (m.comp c).tasks = [t1])
    (hp : (allocate m lg rule l).placed c = some p)
    (hnew : f ∈ (allocate m lg rule l).allocF t2) (hold : f ∉ l.allocF t2)
    (hf : f ∈ (m.wp p).facs) (hff : (allocate m lg rule l).fstate f = .free)
    (hw : w < m.nW) (hfree : (allocate m lg rule l).wstate w = .free)
    (hidle : (allocate m lg rule l).wasg w = [])
    (hskillF : hasSkill (m.fac f).skills (m.task t1).name = true) (htar : wpTargets m f t1 = true)
    (hskill : hasSkill (m.worker w).skills (m.task t1).name = true)
    (hteam : teamTargets m w t1 = true) :
    canAdd m (Pairs.freed (allocate m lg rule l) f) t1 (some w) (some f) = false :=
  NoWait.allocate_no_inversion_fac m lg rule l hord hna
    (.pair hnf hc (.of_tasks hlink hsingle) hp hf hff hskillF htar) hnew hold hw hfree hidle hskill
    hteam

namespace C11PairsEx

/-- task 0 needs a facility and is the single task of component 0 (workplace 0, facilities 0 and
1); task 1 is an ordinary task; worker 0 can operate both facilities but only do task 0, worker 1
can do both tasks but operate facility 0 only -/
def mA : Model where
  nT := 2
  nW := 2
  nF := 2
  nTeam := 1
  nWp := 1
  nC := 1
  task := fun t =>
    if t = 0 then { name := 0, work := 3, needFac := true, wps := [0], comp := some 0 }
    else { name := 1, work := 2 }
  worker := fun w =>
    if w = 0 then { team := 0, skills := [(0, 1)], facSkills := [(0, 1), (1, 1)] }
    else { team := 0, skills := [(0, 1), (1, 1)], facSkills := [(0, 1)] }
  fac := fun f => { wp := 0, name := f, skills := [(0, 1)] }
  team := fun _ => { workers := [0, 1], targets := [0, 1] }
  wp := fun _ => { facs := [0, 1], targets := [0], cap := 1 }
  comp := fun _ => { tasks := [0] }

def l : Live := { Live.empty with tstate := fun t => if t < 2 then .ready else .none }

def s : St := { St.fresh with live := l }

theorem s_inv : AllocInv mA s.live ∧ HoldWorking s.live :=
  AllocInv_of_empty (fun _ => rfl) (fun _ => rfl) (fun _ => rfl) (fun _ => rfl)

theorem mA_link : ∀ t', t' < mA.nT → (mA.task t').comp = some 0 → t' ∈ (mA.comp 0).tasks := by
  decide +kernel

theorem mA_order : sortTasks mA l Logs.empty .tslack (NoWait.cands mA l) = [0, 1] := by
  decide +kernel

/-- tasks 0 and 1 both need a facility, single tasks of the components 0 and 1, both placed at
workplace 0 (facilities 0 and 1, room for two components); worker 0 works alone and does task 0,
worker 1 does task 1, worker 2 could do task 0 -/
def mB : Model where
  nT := 2
  nW := 3
  nF := 2
  nTeam := 1
  nWp := 1
  nC := 2
  task := fun t =>
    if t = 0 then { name := 0, work := 3, needFac := true, wps := [0], comp := some 0 }
    else { name := 1, work := 2, needFac := true, wps := [0], comp := some 1 }
  worker := fun w =>
    if w = 0 then { team := 0, skills := [(0, 1)], facSkills := [(0, 1), (1, 1)], solo := true }
    else if w = 1 then { team := 0, skills := [(1, 1)], facSkills := [(0, 1), (1, 1)] }
    else { team := 0, skills := [(0, 1)], facSkills := [(0, 1), (1, 1)] }
  fac := fun f => { wp := 0, name := f, skills := [(0, 1), (1, 1)] }
  team := fun _ => { workers := [0, 1, 2], targets := [0, 1] }
  wp := fun _ => { facs := [0, 1], targets := [0, 1], cap := 2 }
  comp := fun c => { tasks := [c] }

theorem mB_link : ∀ t', t' < mB.nT → (mB.task t').comp = some 0 → t' ∈ (mB.comp 0).tasks := by
  decide +kernel

theorem mB_order : sortTasks mB l Logs.empty .tslack (NoWait.cands mB l) = [0, 1] := by
  decide +kernel

end C11PairsEx

/-- the hypotheses of `C11_no_inversion_pair` hold non-trivially: task 0 precedes task 1; the pass
places component 0 at workplace 0, gives (worker 0, facility 0) to task 0 and then worker 1 — who
has the skill for task 0 as well — to task 1; facility 1 stays FREE; task 0 could not take the
pair (worker 1, facility 1): worker 1 cannot operate facility 1 -/
example :
    sortTasks C11PairsEx.mA C11PairsEx.l Logs.empty .tslack (NoWait.cands C11PairsEx.mA C11PairsEx.l)
      = [0, 1] ∧
    (C11PairsEx.mA.task 0).isAuto = false ∧ (C11PairsEx.mA.task 0).needFac = true ∧
    (C11PairsEx.mA.task 0).comp = some 0 ∧ (C11PairsEx.mA.comp 0).tasks = [0] ∧
    (allocate C11PairsEx.mA Logs.empty .tslack C11PairsEx.l).placed 0 = some 0 ∧
    (allocate C11PairsEx.mA Logs.empty .tslack C11PairsEx.l).allocW 0 = [0] ∧
    (allocate C11PairsEx.mA Logs.empty .tslack C11PairsEx.l).allocF 0 = [0] ∧
    (allocate C11PairsEx.mA Logs.empty .tslack C11PairsEx.l).allocW 1 = [1] ∧
    C11PairsEx.l.allocW 1 = [] ∧
    1 ∈ (C11PairsEx.mA.wp 0).facs ∧
    (allocate C11PairsEx.mA Logs.empty .tslack C11PairsEx.l).fstate 1 = .free ∧
    (allocate C11PairsEx.mA Logs.empty .tslack C11PairsEx.l).fasg 1 = [] ∧
    hasSkill (C11PairsEx.mA.fac 1).skills (C11PairsEx.mA.task 0).name = true ∧
    wpTargets C11PairsEx.mA 1 0 = true ∧
    hasSkill (C11PairsEx.mA.worker 1).skills (C11PairsEx.mA.task 0).name = true ∧
    teamTargets C11PairsEx.mA 1 0 = true ∧
    canAdd C11PairsEx.mA (allocate C11PairsEx.mA Logs.empty .tslack C11PairsEx.l) 0 (some 1) (some 1)
      = false :=
  ⟨C11PairsEx.mA_order, by decide +kernel⟩

example : List.Sublist [0, 1] (sortTasks C11PairsEx.mA C11PairsEx.l Logs.empty .tslack
    (NoWait.cands C11PairsEx.mA C11PairsEx.l)) :=
  C11PairsEx.mA_order ▸ .refl _

/-- … the link hypothesis holds for this model … -/
example : ∀ t', t' < C11PairsEx.mA.nT → (C11PairsEx.mA.task t').comp = some 0 →
    t' ∈ (C11PairsEx.mA.comp 0).tasks := C11PairsEx.mA_link

/-- … and the same picture at the end of the whole step (`C11_no_inversion_pair_step`) -/
example :
    ({} : Params).absence.contains C11PairsEx.s.time = false ∧
    (AllocInv C11PairsEx.mA C11PairsEx.s.live ∧ HoldWorking C11PairsEx.s.live) ∧
    ((stepBody C11PairsEx.mA {} C11PairsEx.s).live.placed 0 = some 0 ∧
     (stepBody C11PairsEx.mA {} C11PairsEx.s).live.allocW 1 = [1] ∧
     (stepBody C11PairsEx.mA {} C11PairsEx.s).live.fstate 1 = .free ∧
     canAdd C11PairsEx.mA (stepBody C11PairsEx.mA {} C11PairsEx.s).live 0 (some 1) (some 1)
       = false) :=
  ⟨by decide, C11PairsEx.s_inv, by decide +kernel⟩

/-- the hypotheses of `C11_no_inversion_fac` hold non-trivially: task 0 precedes task 1; the pass
places both components at workplace 0, gives (worker 0, facility 0) to task 0 and then
(worker 1, facility 1) to task 1; worker 2, who has the skill for task 0, stays FREE and idle;
facility 1 was eligible for task 0 too, but task 0 could not take (worker 2, facility 1) — not
even with facility 1 handed back: the solo worker 0 is on it -/
example :
    sortTasks C11PairsEx.mB C11PairsEx.l Logs.empty .tslack (NoWait.cands C11PairsEx.mB C11PairsEx.l)
      = [0, 1] ∧
    (C11PairsEx.mB.task 0).isAuto = false ∧ (C11PairsEx.mB.task 0).needFac = true ∧
    (C11PairsEx.mB.task 0).comp = some 0 ∧ (C11PairsEx.mB.comp 0).tasks = [0] ∧
    (allocate C11PairsEx.mB Logs.empty .tslack C11PairsEx.l).placed 0 = some 0 ∧
    (allocate C11PairsEx.mB Logs.empty .tslack C11PairsEx.l).allocW 0 = [0] ∧
    (allocate C11PairsEx.mB Logs.empty .tslack C11PairsEx.l).allocF 0 = [0] ∧
    (allocate C11PairsEx.mB Logs.empty .tslack C11PairsEx.l).allocW 1 = [1] ∧
    (allocate C11PairsEx.mB Logs.empty .tslack C11PairsEx.l).allocF 1 = [1] ∧
    C11PairsEx.l.allocF 1 = [] ∧
    1 ∈ (C11PairsEx.mB.wp 0).facs ∧
    (allocate C11PairsEx.mB Logs.empty .tslack C11PairsEx.l).fstate 1 = .free ∧
    2 < C11PairsEx.mB.nW ∧
    (allocate C11PairsEx.mB Logs.empty .tslack C11PairsEx.l).wstate 2 = .free ∧
    (allocate C11PairsEx.mB Logs.empty .tslack C11PairsEx.l).wasg 2 = [] ∧
    hasSkill (C11PairsEx.mB.fac 1).skills (C11PairsEx.mB.task 0).name = true ∧
    wpTargets C11PairsEx.mB 1 0 = true ∧
    hasSkill (C11PairsEx.mB.worker 2).skills (C11PairsEx.mB.task 0).name = true ∧
    teamTargets C11PairsEx.mB 2 0 = true ∧
    canAdd C11PairsEx.mB (Pairs.freed (allocate C11PairsEx.mB Logs.empty .tslack C11PairsEx.l) 1) 0
      (some 2) (some 1) = false :=
  ⟨C11PairsEx.mB_order, by decide +kernel⟩

example : List.Sublist [0, 1] (sortTasks C11PairsEx.mB C11PairsEx.l Logs.empty .tslack
    (NoWait.cands C11PairsEx.mB C11PairsEx.l)) :=
  C11PairsEx.mB_order ▸ .refl _

example : ∀ t', t' < C11PairsEx.mB.nT → (C11PairsEx.mB.task t').comp = some 0 →
    t' ∈ (C11PairsEx.mB.comp 0).tasks := C11PairsEx.mB_link

end PDesy

#print axioms PDesy.C11_no_inversion_pair
#print axioms PDesy.C11_no_inversion_pair_wf
#print axioms PDesy.C11_no_inversion_pair'
#print axioms PDesy.C11_no_inversion_pair_step
#print axioms PDesy.C11_no_inversion_fac
