/-
  PDesy.Props.C18 — "Editing absence steps out of or into finished logs keeps all logs aligned".

  `removeAbs` / `insertAbs` / `reverseLogs` (Model/LogEdit) mirror
  `remove_absence_time_list()` / `insert_absence_time_list(L)` / `reverse_log_information()` of
  the project and of every class below it.

  Totality ("complete without error").  The model functions are total, so termination without
  an exception is by construction.  The only thing the Python could trip over is an index:
  `list.pop(i)` with `i ≥ len` raises, `log[i - 1]` / `log[i]` with a bad index raises.  The model
  guards every `pop`/`insert` by `step < len(guard log)` exactly like the code; the theorems
  below show that for `Aligned` states the guard log and the edited log always have the same
  length, so every guarded `delAt` index is in range (`C18_remove_in_range`: all the steps of
  `remSteps` are popped, none is skipped, each at an index below the current length) and every
  `copyPrev`/`mkStateT`/`mkStateC` read at an accepted step `k` has `k < len` (`Edit.insFold_spec`).

  `remSteps s`, `insList L s` (the steps the two edits pop and insert) and `LenDiff` (every log is `d`
  entries longer) are defined at the end of Lemmas/Edit.lean; the theorems instantiate its `removeAbs_get`,
  `insertAbs_get`, `insertAbs_spec` (through the three `insertAbs_getElem?_…`) and `removeAbs_insertAbs`.
-/
import PDesy.Lemmas.Edit

namespace PDesy
open PDesy.Edit

variable {m : Model}

/-- one object of every kind -/
def c18M : Model where
  nT := 1
  nW := 1
  nF := 1
  nTeam := 1
  nWp := 1
  nC := 1
  task := fun _ => { work := 2 }
  worker := fun _ => {}
  fac := fun _ => {}
  team := fun _ => {}
  wp := fun _ => {}
  comp := fun _ => {}

/-- three recorded steps, no absence step -/
def c18S : St :=
  { St.fresh with
    time := 3
    logs :=
      { tState := fun _ => [.ready, .working, .finished]
        tRem := fun _ => [2, 1, 0]
        tAllocW := fun _ => [[], [0], [0]]
        tAllocF := fun _ => [[], [], []]
        wState := fun _ => [.free, .working, .working]
        wCost := fun _ => [0, 5, 5]
        wAsg := fun _ => [[], [0], [0]]
        fState := fun _ => [.free, .free, .free]
        fCost := fun _ => [0, 0, 0]
        fAsg := fun _ => [[], [], []]
        teamCost := fun _ => [0, 5, 5]
        wpCost := fun _ => [0, 0, 0]
        wpPlaced := fun _ => [[], [0], [0]]
        orgCost := [0, 5, 5]
        projCost := [0, 5, 5]
        cState := fun _ => [.ready, .working, .finished]
        cPlaced := fun _ => [Option.none, some 0, some 0] } }

theorem c18S_aligned : Aligned c18M c18S := by
  constructor <;> intros <;> rfl

/-- **C18, remove.**  `remove_absence_time_list()` on an aligned project gives an aligned
project: all 17 logs of every object again have `project.time` entries. -/
theorem C18_remove_aligned {s : St} (h : Aligned m s) : Aligned m (removeAbs m s) :=
  h.map (· - (remSteps s).length) (fun k hk => by
    rw [removeAbs_get h hk, length_foldl_delAt _ _ _ (remSteps_dec h)
      (Nat.le_of_eq (h.get k hk).symm), List.length_reverse]) rfl

/-- The amount: `project.time` is reduced by the number `d` of popped steps (`d ≤ time`, so the
subtraction is a real one), the absence list is emptied, nothing else changes. -/
theorem C18_remove_time {s : St} (h : Aligned m s) :
    (removeAbs m s).time + (remSteps s).length = s.time ∧
    (removeAbs m s).absence = [] ∧
    (removeAbs m s).live = s.live ∧ (removeAbs m s).status = s.status ∧
    (removeAbs m s).mode = s.mode ∧ (removeAbs m s).autoFlag = s.autoFlag :=
  ⟨Nat.sub_add_cancel (Nat.le_trans (length_stepsBelow_le _ _) (Nat.le_of_eq h.projCost)),
    rfl, rfl, rfl, rfl, rfl⟩

/-- The amount, log by log: every log of every in-range object loses exactly
`(remSteps s).length` entries. -/
theorem C18_remove_amount {s : St} (h : Aligned m s) :
    LenDiff m (removeAbs m s).logs s.logs (remSteps s).length :=
  LenDiff.of_aligned (C18_remove_aligned h) h (C18_remove_time h).1.symm

/-- The popped steps are exactly the members of `absence_time_list` below the log length,
ascending and without duplicates. -/
theorem C18_remove_steps (s : St) :
    (remSteps s).Pairwise (· < ·) ∧ ∀ k, k ∈ remSteps s ↔ k < s.logs.projCost.length ∧ k ∈ s.absence :=
  ⟨stepsBelow_pairwise _ _, fun _ => mem_stepsBelow⟩

/-- No pop is skipped and no pop is out of range: on a log `log` as long as its guard log, the
guarded loop of `remove_absence_time_list` is the unguarded sequence of `pop(step)`, highest
step first (`Edit.Dec` = every step is below the current guard length = current log length). -/
theorem C18_remove_in_range {α : Type} {s : St} (h : Aligned m s) (log : List α)
    (hl : log.length = s.time) :
    Dec (remSteps s).reverse log.length ∧
    popBy (remSteps s) log.length log = (remSteps s).reverse.foldl delAt log := by
  rw [hl]
  exact ⟨remSteps_dec h, popBy_eq_foldl _ _ _ (remSteps_dec h)⟩

example : Aligned c18M (removeAbs c18M { c18S with absence := [1, 7, 1] }) :=
  C18_remove_aligned (c18S_aligned.congr_get rfl fun _ _ => rfl)
example : remSteps { c18S with absence := [1, 7, 1] } = [1] := by decide +kernel
example : (removeAbs c18M { c18S with absence := [1, 7, 1] }).time = 2 ∧
    (removeAbs c18M { c18S with absence := [1, 7, 1] }).logs.projCost = [0, 5] ∧
    (removeAbs c18M { c18S with absence := [1, 7, 1] }).logs.tState 0 = [.ready, .finished] := by
  decide +kernel

/-- **C18, insert.**  `insert_absence_time_list(L)` on an aligned project gives an aligned
project, for every list `L` (step 0, duplicates, steps that are already absence steps, steps
beyond the end of the run). -/
theorem C18_insert_aligned {s : St} (L : List Nat) (h : Aligned m s) :
    Aligned m (insertAbs m L s) :=
  h.map (· + (insList L s).length) (fun k hk => by rw [insertAbs_get L h hk, length_insFold]) rfl

/-- The amount: `project.time` grows by the number of inserted steps, the inserted steps are
appended to `absence_time_list`, nothing else changes. -/
theorem C18_insert_time (L : List Nat) (s : St) :
    (insertAbs m L s).time = s.time + (insList L s).length ∧
    (insertAbs m L s).absence = s.absence ++ insList L s ∧
    (insertAbs m L s).live = s.live ∧ (insertAbs m L s).status = s.status ∧
    (insertAbs m L s).mode = s.mode ∧ (insertAbs m L s).autoFlag = s.autoFlag :=
  ⟨rfl, rfl, rfl, rfl, rfl, rfl⟩

/-- The amount, log by log: every log of every in-range object gains exactly
`(insList L s).length` entries. -/
theorem C18_insert_amount {s : St} (L : List Nat) (h : Aligned m s) :
    LenDiff m s.logs (insertAbs m L s).logs (insList L s).length :=
  LenDiff.of_aligned h (C18_insert_aligned L h) rfl

/-- The inserted steps: ascending, duplicate-free, requested, not absence steps before, and
each a valid index of the new logs; every requested step below the old length that is not an
absence step yet is inserted. -/
theorem C18_insert_steps {s : St} (L : List Nat) (h : Aligned m s) :
    (insList L s).Pairwise (· < ·) ∧ (insList L s).Nodup ∧
    (∀ k ∈ insList L s, k ∈ L ∧ k ∉ s.absence ∧ k < (insertAbs m L s).time) ∧
    (∀ k ∈ L, k ∉ s.absence → k < s.time → k ∈ insList L s) := by
  refine ⟨insList_pairwise L s, insOf_nodup _ _ _, ?_, ?_⟩
  · intro k hk
    exact ⟨(of_mem_insOf hk).1, (of_mem_insOf hk).2, (insList_acc h L).lt k hk⟩
  · intro k hk hn hlt
    exact mem_insOf_of_lt hk hn (by rw [h.projCost]; exact hlt)

example : insList [0, 2, 2, 9] c18S = [0, 2] := by decide +kernel
example : Aligned c18M (insertAbs c18M [0, 2, 2, 9] c18S) := C18_insert_aligned _ c18S_aligned
example : (insertAbs c18M [0, 2, 2, 9] c18S).time = 5 ∧
    (insertAbs c18M [0, 2, 2, 9] c18S).absence = [0, 2] ∧
    (insertAbs c18M [0, 2, 2, 9] c18S).logs.projCost = [0, 0, 0, 5, 5] ∧
    (insertAbs c18M [0, 2, 2, 9] c18S).logs.tState 0 = [.none, .ready, .ready, .working, .finished] ∧
    (insertAbs c18M [0, 2, 2, 9] c18S).logs.tRem 0 = [2, 2, 2, 1, 0] ∧
    (insertAbs c18M [0, 2, 2, 9] c18S).logs.wState 0 = [.free, .free, .free, .working, .working] ∧
    (insertAbs c18M [0, 2, 2, 9] c18S).logs.cPlaced 0 =
      [Option.none, Option.none, Option.none, some 0, some 0] := by
  decide +kernel
/-- a step beyond the end of the run is ignored; a step equal to the current length is too -/
example : insList [3, 9] c18S = [] := by decide +kernel
/-- … but it becomes insertable once the log has grown -/
example : insList [1, 3] c18S = [1, 3] := by decide +kernel

/-- one call of `remove_absence_time_list()` or `insert_absence_time_list(L)` -/
inductive EditOp
  | remove
  | insert (L : List Nat)

def applyOp (m : Model) (s : St) : EditOp → St
  | .remove => removeAbs m s
  | .insert L => insertAbs m L s

/-- **C18, sequences.**  Any sequence of remove/insert calls with arbitrary index lists keeps
an aligned project aligned. -/
theorem C18_sequence (ops : List EditOp) {s : St} (h : Aligned m s) :
    Aligned m (ops.foldl (applyOp m) s) :=
  List.foldlRecOn (motive := Aligned m) ops (applyOp m) h fun _ h op _ =>
    match op with
    | .remove => C18_remove_aligned h
    | .insert L => C18_insert_aligned L h

example : Aligned c18M ([EditOp.insert [0, 2, 2, 9], .remove, .insert [1], .insert [1, 0]].foldl
    (applyOp c18M) c18S) := C18_sequence _ c18S_aligned

/-- `reverse_log_information()` keeps every log length and the clock: aligned stays aligned. -/
theorem C18_reverse_aligned {s : St} (h : Aligned m s) : Aligned m (reverseLogs m s) := h.reverse

example : (reverseLogs c18M c18S).logs.tState 0 = [.finished, .working, .ready] := by
  decide +kernel

/-- `insert_absence_time_list` inserts, at each accepted step and in ascending order,
`mk step currentLog` at position `step` of the current log (the inductive reading of `insSteps`;
`Edit.Acc` = every step passes its guard `step < len`, the guard growing by one each time). -/
theorem C18_insSteps_cons {α : Type} (mk : Nat → List α → α) (st : Nat) (rest : List Nat)
    (log : List α) (h : Acc (st :: rest) log.length) :
    insSteps (st :: rest) log.length mk log =
      insSteps rest (log.length + 1) mk (insAt log st (mk st log)) := by
  rw [insSteps_eq_insFold _ _ _ _ h, insSteps_eq_insFold _ _ _ _ h.2]
  rfl

example : Acc [0, 2] [10, 20, 30].length := ⟨by decide, by decide, trivial⟩

/-- A single `insert(k, v)` with `k ≤ len`: entries before `k` unchanged, entry `k` is `v`,
entries from `k` on shifted by one. -/
theorem C18_getElem?_insAt {α : Type} (xs : List α) (k : Nat) (v : α) (h : k ≤ xs.length)
    (j : Nat) :
    (insAt xs k v)[j]? = if j < k then xs[j]? else if j = k then some v else xs[j - 1]? :=
  getElem?_insAt xs k v h j

/-- **C18, one inserted step.**  `insert_absence_time_list([k])` for a step `k` inside the run
that is not an absence step yet: every log gets one `insert(k, v)` (so by `C18_getElem?_insAt`
everything before `k` is unchanged and everything from `k` on is shifted by one), with `v` =
0 for the six cost logs, FREE for worker/facility states, a copy of entry `k - 1` for remaining
work, allocations, assignments and placements (the initial remaining work `work·(1 − progress)`,
the empty list, `None` at `k = 0`), and `insStateT/C before after` for task/component states
(`before` = old entry `k - 1`, `after` = old entry `k`; NONE at `k = 0`). -/
theorem C18_insert_one {s : St} {k : Nat} (h : Aligned m s) (hk : k < s.time)
    (hn : k ∉ s.absence) :
    insList [k] s = [k] ∧
    (insertAbs m [k] s).logs.projCost = insAt s.logs.projCost k 0 ∧
    (insertAbs m [k] s).logs.orgCost = insAt s.logs.orgCost k 0 ∧
    (∀ a, a < m.nTeam → (insertAbs m [k] s).logs.teamCost a = insAt (s.logs.teamCost a) k 0) ∧
    (∀ q, q < m.nWp → (insertAbs m [k] s).logs.wpCost q = insAt (s.logs.wpCost q) k 0 ∧
      (insertAbs m [k] s).logs.wpPlaced q =
        insAt (s.logs.wpPlaced q) k (if k = 0 then [] else ((s.logs.wpPlaced q)[k - 1]?).getD [])) ∧
    (∀ w, w < m.nW → (insertAbs m [k] s).logs.wState w = insAt (s.logs.wState w) k .free ∧
      (insertAbs m [k] s).logs.wCost w = insAt (s.logs.wCost w) k 0 ∧
      (insertAbs m [k] s).logs.wAsg w =
        insAt (s.logs.wAsg w) k (if k = 0 then [] else ((s.logs.wAsg w)[k - 1]?).getD [])) ∧
    (∀ f, f < m.nF → (insertAbs m [k] s).logs.fState f = insAt (s.logs.fState f) k .free ∧
      (insertAbs m [k] s).logs.fCost f = insAt (s.logs.fCost f) k 0 ∧
      (insertAbs m [k] s).logs.fAsg f =
        insAt (s.logs.fAsg f) k (if k = 0 then [] else ((s.logs.fAsg f)[k - 1]?).getD [])) ∧
    (∀ t, t < m.nT →
      (insertAbs m [k] s).logs.tState t = insAt (s.logs.tState t) k
        (if k = 0 then .none else
          insStateT (((s.logs.tState t)[k - 1]?).getD .none) (((s.logs.tState t)[k]?).getD .none)) ∧
      (insertAbs m [k] s).logs.tRem t = insAt (s.logs.tRem t) k
        (if k = 0 then (m.task t).work * (1 - (m.task t).prog)
          else ((s.logs.tRem t)[k - 1]?).getD ((m.task t).work * (1 - (m.task t).prog))) ∧
      (insertAbs m [k] s).logs.tAllocW t =
        insAt (s.logs.tAllocW t) k (if k = 0 then [] else ((s.logs.tAllocW t)[k - 1]?).getD []) ∧
      (insertAbs m [k] s).logs.tAllocF t =
        insAt (s.logs.tAllocF t) k (if k = 0 then [] else ((s.logs.tAllocF t)[k - 1]?).getD [])) ∧
    (∀ c, c < m.nC →
      (insertAbs m [k] s).logs.cState c = insAt (s.logs.cState c) k
        (if k = 0 then .none else
          insStateC (((s.logs.cState c)[k - 1]?).getD .none) (((s.logs.cState c)[k]?).getD .none)) ∧
      (insertAbs m [k] s).logs.cPlaced c = insAt (s.logs.cPlaced c) k
        (if k = 0 then Option.none else ((s.logs.cPlaced c)[k - 1]?).getD Option.none)) := by
  have e : insList [k] s = [k] := insOf_single _ _ _ hn (by rw [h.projCost]; exact hk)
  -- every in-range log gets the one `insert(k, v)`, `v` as `insVal` says
  have key : ∀ {κ : LogKey}, κ.In m →
      (insertAbs m [k] s).logs.get κ = insAt (s.logs.get κ) k (insVal m κ k (s.logs.get κ)) :=
    fun hκ => by rw [insertAbs_get [k] h hκ, e]; rfl
  exact ⟨e, key (κ := .projCost) trivial, key (κ := .orgCost) trivial,
    fun a ha => key (κ := .teamCost a) ha,
    fun q hq => ⟨key (κ := .wpCost q) hq, key (κ := .wpPlaced q) hq⟩,
    fun w hw => ⟨key (κ := .wState w) hw, key (κ := .wCost w) hw, key (κ := .wAsg w) hw⟩,
    fun f hf => ⟨key (κ := .fState f) hf, key (κ := .fCost f) hf, key (κ := .fAsg f) hf⟩,
    fun t ht => ⟨key (κ := .tState t) ht, key (κ := .tRem t) ht, key (κ := .tAllocW t) ht,
      key (κ := .tAllocF t) ht⟩,
    fun c hc => ⟨key (κ := .cState c) hc, key (κ := .cPlaced c) hc⟩⟩

example : 1 < c18S.time ∧ 1 ∉ c18S.absence := by decide +kernel
example : (insertAbs c18M [1] c18S).logs.tState 0 = [.ready, .ready, .working, .finished] ∧
    (insertAbs c18M [1] c18S).logs.wCost 0 = [0, 0, 5, 5] := by decide +kernel

/-- **C18, inserted steps are no-work, zero-cost steps (whole list).**  For every list `L` and
every step `k` that `insert_absence_time_list(L)` inserts, in the resulting logs: entry `k` of
the project, organization, team, workplace, worker and facility cost logs is 0; entry `k` of
every worker/facility state log is FREE; entry `k` of the remaining-work log of a task is its
entry `k - 1` (no work done; the initial remaining work `work·(1 − progress)` at `k = 0`);
entry `k` of the allocation / assignment / placement logs is their entry `k - 1` (empty / `None`
at `k = 0`). -/
theorem C18_inserted_values {s : St} (L : List Nat) (h : Aligned m s) (k : Nat)
    (hk : k ∈ insList L s) :
    (insertAbs m L s).logs.projCost[k]? = some 0 ∧
    (insertAbs m L s).logs.orgCost[k]? = some 0 ∧
    (∀ a, a < m.nTeam → ((insertAbs m L s).logs.teamCost a)[k]? = some 0) ∧
    (∀ q, q < m.nWp → ((insertAbs m L s).logs.wpCost q)[k]? = some 0 ∧
      ((insertAbs m L s).logs.wpPlaced q)[k]? =
        if k = 0 then some [] else ((insertAbs m L s).logs.wpPlaced q)[k - 1]?) ∧
    (∀ w, w < m.nW → ((insertAbs m L s).logs.wState w)[k]? = some RS.free ∧
      ((insertAbs m L s).logs.wCost w)[k]? = some 0 ∧
      ((insertAbs m L s).logs.wAsg w)[k]? =
        if k = 0 then some [] else ((insertAbs m L s).logs.wAsg w)[k - 1]?) ∧
    (∀ f, f < m.nF → ((insertAbs m L s).logs.fState f)[k]? = some RS.free ∧
      ((insertAbs m L s).logs.fCost f)[k]? = some 0 ∧
      ((insertAbs m L s).logs.fAsg f)[k]? =
        if k = 0 then some [] else ((insertAbs m L s).logs.fAsg f)[k - 1]?) ∧
    (∀ t, t < m.nT →
      ((insertAbs m L s).logs.tRem t)[k]? =
        (if k = 0 then some ((m.task t).work * (1 - (m.task t).prog))
          else ((insertAbs m L s).logs.tRem t)[k - 1]?) ∧
      ((insertAbs m L s).logs.tAllocW t)[k]? =
        (if k = 0 then some [] else ((insertAbs m L s).logs.tAllocW t)[k - 1]?) ∧
      ((insertAbs m L s).logs.tAllocF t)[k]? =
        (if k = 0 then some [] else ((insertAbs m L s).logs.tAllocF t)[k - 1]?)) ∧
    (∀ c, c < m.nC → ((insertAbs m L s).logs.cPlaced c)[k]? =
        if k = 0 then some Option.none else ((insertAbs m L s).logs.cPlaced c)[k - 1]?) := by
  have cst {κ : LogKey} := insertAbs_getElem?_const h hk (κ := κ)
  have cpy {κ : LogKey} := insertAbs_getElem?_copyPrev h hk (κ := κ)
  exact ⟨cst (κ := .projCost) trivial 0 rfl, cst (κ := .orgCost) trivial 0 rfl,
    fun a ha => cst (κ := .teamCost a) ha 0 rfl,
    fun q hq => ⟨cst (κ := .wpCost q) hq 0 rfl, cpy (κ := .wpPlaced q) hq [] rfl⟩,
    fun w hw => ⟨cst (κ := .wState w) hw .free rfl, cst (κ := .wCost w) hw 0 rfl,
      cpy (κ := .wAsg w) hw [] rfl⟩,
    fun f hf => ⟨cst (κ := .fState f) hf .free rfl, cst (κ := .fCost f) hf 0 rfl,
      cpy (κ := .fAsg f) hf [] rfl⟩,
    fun t ht => ⟨cpy (κ := .tRem t) ht _ rfl, cpy (κ := .tAllocW t) ht [] rfl,
      cpy (κ := .tAllocF t) ht [] rfl⟩,
    fun c hc => cpy (κ := .cPlaced c) hc Option.none rfl⟩

/-- **C18, inserted task/component states (whole list).**  For every inserted step `k` whose
successor `k + 1` is not inserted in the same call, entry `k` of every task (component) state
log is NONE at `k = 0` and otherwise `insStateT (insStateC) before after`, with `before`/`after`
the entries `k - 1`/`k + 1` of the resulting log.  (When `k + 1` is inserted too, `after` is the
old neighbour that now sits behind the run of inserted steps; `Edit.insFold_spec` gives the
value as `mkStateT k log'` for the log `log'` at the time of the insertion.) -/
theorem C18_inserted_states {s : St} (L : List Nat) (h : Aligned m s) (k : Nat)
    (hk : k ∈ insList L s) (hk1 : k + 1 ∉ insList L s) :
    (∀ t, t < m.nT → ((insertAbs m L s).logs.tState t)[k]? =
      some (if k = 0 then TS.none else
        insStateT ((((insertAbs m L s).logs.tState t)[k - 1]?).getD .none)
          ((((insertAbs m L s).logs.tState t)[k + 1]?).getD .none))) ∧
    (∀ c, c < m.nC → ((insertAbs m L s).logs.cState c)[k]? =
      some (if k = 0 then CS.none else
        insStateC ((((insertAbs m L s).logs.cState c)[k - 1]?).getD .none)
          ((((insertAbs m L s).logs.cState c)[k + 1]?).getD .none))) :=
  ⟨fun x hx => insertAbs_getElem?_mkState h hk (κ := .tState x) hx TS.none insStateT (fun _ _ => rfl) hk1,
    fun x hx => insertAbs_getElem?_mkState h hk (κ := .cState x) hx CS.none insStateC (fun _ _ => rfl) hk1⟩

example : 2 ∈ insList [0, 2, 2, 9] c18S ∧ 3 ∉ insList [0, 2, 2, 9] c18S := by decide +kernel

/-- **C18, round trip.**  Inserting any list of steps into an aligned, absence-free result and
then removing the absence steps gives back the state exactly (all logs of all objects, the
clock, the empty absence list, everything else). -/
theorem C18_insert_remove {s : St} (L : List Nat) (h : Aligned m s) (ha : s.absence = []) :
    removeAbs m (insertAbs m L s) = s :=
  removeAbs_insertAbs L h ha

example : removeAbs c18M (insertAbs c18M [0, 2, 2, 9] c18S) = c18S :=
  C18_insert_remove _ c18S_aligned rfl
example : (removeAbs c18M (insertAbs c18M [0, 2, 2, 9] c18S)).logs.tState 0 =
    [.ready, .working, .finished] ∧
    (removeAbs c18M (insertAbs c18M [0, 2, 2, 9] c18S)).time = 3 := by decide +kernel

/-- The hypothesis `absence = []` of the round trip is needed: with an absence step already
present, `remove` also pops that older step. -/
example : (removeAbs c18M (insertAbs c18M [0] { c18S with absence := [1] })).time = 2 := by
  decide +kernel

end PDesy

#print axioms PDesy.C18_remove_aligned
#print axioms PDesy.C18_remove_time
#print axioms PDesy.C18_remove_amount
#print axioms PDesy.C18_remove_steps
#print axioms PDesy.C18_remove_in_range
#print axioms PDesy.C18_insert_aligned
#print axioms PDesy.C18_insert_time
#print axioms PDesy.C18_insert_amount
#print axioms PDesy.C18_insert_steps
#print axioms PDesy.C18_sequence
#print axioms PDesy.C18_reverse_aligned
#print axioms PDesy.C18_insSteps_cons
#print axioms PDesy.C18_getElem?_insAt
#print axioms PDesy.C18_insert_one
#print axioms PDesy.C18_inserted_values
#print axioms PDesy.C18_inserted_states
#print axioms PDesy.C18_insert_remove
