/-
  PDesy.Props.C06 — "No avoidable waiting: work starts, proceeds and ends as early as the rules
  allow."

  At every step
    (a) a task whose start dependencies are satisfied is no longer NONE          (`C06_ready…`),
    (b) an automatic task that is not bound to a component never waits in READY at the end of
        an ACTIVE step (a working step, or any step when automatic tasks are performed during
        absence; at a project absence step with the flag off nothing starts)     (`C06_auto…`),
    (c) no worker stays FREE while a READY or WORKING task exists that the worker is eligible
        for and that can still accept the worker — claimed for tasks that need no facility
                                                                                  (`C06_idle…`),
    (d) a task whose remaining work has reached zero and whose finish dependencies hold is
        FINISHED at the very next `__update`                                      (`C06_finish…`).

  (a) and (d) are statements about the `updated` boundary (right after `__update` at the top of
  an iteration: `updTrace` / `runUpdTrace`); (b) and (c) about the `ticked` boundary (the end of
  a step: `trace` / `runTrace`).  "Eligible" = the worker has a positive skill for the task and
  the worker's team is assigned to the task; "can still accept" = `can_add_resources(worker=w)`
  (`canAdd m l t (some w) none`).

  Each theorem instantiates a lemma of Lemmas/NoWait: (a) `update_ready`, (b) `stepBody_auto_ne_ready`,
  (c) `allocate_idle` and `stepBody_idle` at `Offered.none`, (d) `update_finish`.
-/
import PDesy.Lemmas.NoWait
import PDesy.Lemmas.Logs

namespace PDesy

/-- **C06 (a).**  After `__update` no task `t < nT` is NONE while its start gate is open
(every FS predecessor FINISHED, every SS predecessor WORKING or FINISHED — `readyGate`, read in
the *updated* state). -/
theorem C06_ready (m : Model) (time : Nat) (l : Live) (t : Nat) (ht : t < m.nT) :
    ¬ ((update m time l).tstate t = .none ∧ readyGate m (update m time l).tstate t = true) :=
  NoWait.update_ready m time l ht

/-- **C06 (a)**, with the dependencies spelled out: if in the updated state every
finish-to-start predecessor of `t` is FINISHED and every start-to-start predecessor has started,
then `t` is not NONE. -/
theorem C06_ready_deps (m : Model) (time : Nat) (l : Live) (t : Nat) (ht : t < m.nT)
    (hdeps : ∀ e ∈ (m.task t).inputs,
      (e.2 = .fs → (update m time l).tstate e.1 = .finished) ∧
      (e.2 = .ss → ((update m time l).tstate e.1).started = true)) :
    (update m time l).tstate t ≠ .none :=
  fun h => C06_ready m time l t ht ⟨h, (Lifecycle.readyGate_iff m _ t).mpr hdeps⟩

/-- **C06 (a)** at every `updated` state of the loop, from any starting state. -/
theorem C06_ready_updTrace (m : Model) (p : Params) (fuel : Nat) (s : St) :
    ∀ s' ∈ updTrace m p fuel s, ∀ t, t < m.nT →
      ¬ (s'.live.tstate t = .none ∧ readyGate m s'.live.tstate t = true) := by
  intro s' hs' t ht
  obtain ⟨s1, rfl⟩ := updTrace_mem_updated m p fuel s s' hs'
  exact NoWait.update_ready m s1.time s1.live ht

/-- **C06 (a)** at every `updated` state of `simulate m p s`. -/
theorem C06_ready_run (m : Model) (p : Params) (s : St) :
    ∀ s' ∈ runUpdTrace m p s, ∀ t, t < m.nT →
      ¬ (s'.live.tstate t = .none ∧ readyGate m s'.live.tstate t = true) :=
  C06_ready_updTrace m p _ _

/-- in the demo run, at the first `updated` state task 0 (no predecessor) has an open gate and is
READY, task 1 (after task 0, finish-to-start) has a closed gate and is NONE -/
example : ((runUpdTrace Logs.demo Logs.demoP St.fresh)[0]?.map fun s =>
      (s.live.tstate 0, readyGate Logs.demo s.live.tstate 0,
       s.live.tstate 1, readyGate Logs.demo s.live.tstate 1)) =
    some (.ready, true, .none, false) := Logs.demo_states.1

/-- **C06 (b).**  After `check_state(WORKING)` no automatic task `t < nT` without target
component is READY. -/
theorem C06_auto (m : Model) (l : Live) (t : Nat) (ht : t < m.nT)
    (ha : (m.task t).isAuto = true) (hc : (m.task t).comp = Option.none) :
    (chkWorking m l).tstate t ≠ .ready :=
  NoWait.chkWorking_auto m l ht ha hc

/-- **C06 (b)** at the end of one ACTIVE loop step: a working step, or any step when
`perform_auto_task_while_absence_time` is set (`activeAt p s.time`).

The statement for every step,
  `(stepBody m p s).live.tstate t ≠ .ready`  without `hact`,
is false since nothing starts at a project absence step with the flag off (see the `example`
below `C06Ex.lA`): the property only speaks about steps at which the task can be performed. -/
theorem C06_auto_step (m : Model) (p : Params) (s : St) (t : Nat) (ht : t < m.nT)
    (ha : (m.task t).isAuto = true) (hc : (m.task t).comp = Option.none)
    (hact : activeAt p s.time = true) :
    (stepBody m p s).live.tstate t ≠ .ready :=
  NoWait.stepBody_auto_ne_ready m p s ht ha hc hact

/-- **C06 (b)** at every `ticked` state of the loop that was produced by an active step, from
any starting state. -/
theorem C06_auto_trace (m : Model) (p : Params) (fuel : Nat) (s : St) :
    ∀ s' ∈ trace m p fuel s, activeAt p (s'.time - 1) = true → ∀ t, t < m.nT →
      (m.task t).isAuto = true → (m.task t).comp = Option.none → s'.live.tstate t ≠ .ready := by
  intro s' hs' hact t ht ha hc
  obtain ⟨s1, rfl⟩ := trace_mem_stepBody m p fuel s s' hs'
  exact C06_auto_step m p s1 t ht ha hc (Nat.add_sub_cancel s1.time 1 ▸ hact)

/-- **C06 (b)** at every `ticked` state of `simulate m p s` produced by an active step. -/
theorem C06_auto_run (m : Model) (p : Params) (s : St) :
    ∀ s' ∈ runTrace m p s, activeAt p (s'.time - 1) = true → ∀ t, t < m.nT →
      (m.task t).isAuto = true → (m.task t).comp = Option.none → s'.live.tstate t ≠ .ready :=
  C06_auto_trace m p _ _

namespace C06Ex

/-- one automatic task without component (task 0) and one ordinary task nobody can do -/
def mA : Model where
  nT := 2
  nW := 0
  nF := 0
  nTeam := 0
  nWp := 0
  nC := 0
  task := fun t => if t = 0 then { name := 0, work := 2, isAuto := true } else { name := 1, work := 1 }
  worker := fun _ => {}
  fac := fun _ => {}
  team := fun _ => {}
  wp := fun _ => {}
  comp := fun _ => {}

def lA : Live := { Live.empty with tstate := fun _ => .ready }

end C06Ex

/-- the automatic task 0 is started by `check_state(WORKING)`; the ordinary task 1, which holds
no worker, stays READY -/
example : C06Ex.lA.tstate 0 = .ready ∧ (C06Ex.mA.task 0).isAuto = true ∧
    (C06Ex.mA.task 0).comp = Option.none ∧
    (chkWorking C06Ex.mA C06Ex.lA).tstate 0 = .working ∧
    (chkWorking C06Ex.mA C06Ex.lA).tstate 1 = .ready := by decide +kernel

/-- `C06_auto_step`: at a working step the READY automatic task 0 is started (premises
satisfiable); at a project absence step it is started when the flag is set, and stays READY when
the flag is off — which is why `hact` cannot be dropped -/
example :
    activeAt {} ({ St.fresh with live := C06Ex.lA }).time = true ∧
    (stepBody C06Ex.mA {} { St.fresh with live := C06Ex.lA }).live.tstate 0 = .working ∧
    activeAt { absence := [0], autoFlag := true } ({ St.fresh with live := C06Ex.lA }).time = true ∧
    (stepBody C06Ex.mA { absence := [0], autoFlag := true }
      { St.fresh with live := C06Ex.lA }).live.tstate 0 = .working ∧
    activeAt { absence := [0] } ({ St.fresh with live := C06Ex.lA }).time = false ∧
    (stepBody C06Ex.mA { absence := [0] } { St.fresh with live := C06Ex.lA }).live.tstate 0 = .ready := by
  decide +kernel

/-- **C06 (c)** for one allocation pass.  Let `l' = allocate m lg rule l`.  A worker `w < nW`
that was FREE and still holds nothing after the pass, and a READY or WORKING task `t < nT` that
is not automatic and needs no facility: it is NOT the case that `w` is eligible for `t`
(positive skill, team assigned to the task) and `t` can still accept `w`.

No invariant of the incoming state is needed: every reason for `can_add_resources` to refuse
survives the rest of the pass (task states do not change, allocation lists only grow). -/
theorem C06_idle (m : Model) (lg : Logs) (rule : TaskRule) (l : Live) (w t : Nat)
    (hw : w < m.nW) (hfree : (allocate m lg rule l).wstate w = .free)
    (hidle : (allocate m lg rule l).wasg w = [])
    (ht : t < m.nT) (hs : l.tstate t = .ready ∨ l.tstate t = .working)
    (hna : (m.task t).isAuto = false) (hnf : (m.task t).needFac = false) :
    ¬ (hasSkill (m.worker w).skills (m.task t).name = true ∧ teamTargets m w t = true ∧
       canAdd m (allocate m lg rule l) t (some w) Option.none = true) := by
  rintro ⟨h1, h2, h3⟩
  rw [NoWait.allocate_idle m lg rule l hw hfree hidle ht hs hna (.none hnf) h1 h2] at h3
  cases h3

/-- **C06 (c)** at the end of a working step.  Starting the step from a state that satisfies the
allocation invariant (with every holder WORKING), a worker `w < nW` that is FREE at the end of
the step and a task `t < nT` that is READY or WORKING at the end of the step, not automatic and
without facility: NOT (`w` eligible for `t` and `t` can still accept `w`). -/
theorem C06_idle_step (m : Model) (p : Params) (s : St)
    (hwork : p.absence.contains s.time = false)
    (hinv : AllocInv m s.live) (hhw : HoldWorking s.live) (w t : Nat)
    (hw : w < m.nW) (hfree : (stepBody m p s).live.wstate w = .free)
    (ht : t < m.nT)
    (hs : (stepBody m p s).live.tstate t = .ready ∨ (stepBody m p s).live.tstate t = .working)
    (hna : (m.task t).isAuto = false) (hnf : (m.task t).needFac = false) :
    ¬ (hasSkill (m.worker w).skills (m.task t).name = true ∧ teamTargets m w t = true ∧
       canAdd m (stepBody m p s).live t (some w) Option.none = true) := by
  rintro ⟨h1, h2, h3⟩
  rw [NoWait.stepBody_idle m p s hwork hinv hhw hw hfree ht hs hna (.none hnf) h1 h2] at h3
  cases h3

/-- **C06 (c)** at every `ticked` state of the loop that was produced by a working step, starting
from a state that satisfies the allocation invariant. -/
theorem C06_idle_trace (m : Model) (p : Params) (fuel : Nat) (s : St)
    (h : AllocInv m s.live ∧ HoldWorking s.live) :
    ∀ s' ∈ trace m p fuel s, workingAt p (s'.time - 1) = true →
      ∀ w t, w < m.nW → s'.live.wstate w = .free → t < m.nT →
        (s'.live.tstate t = .ready ∨ s'.live.tstate t = .working) →
        (m.task t).isAuto = false → (m.task t).needFac = false →
        ¬ (hasSkill (m.worker w).skills (m.task t).name = true ∧ teamTargets m w t = true ∧
           canAdd m s'.live t (some w) Option.none = true) := by
  intro s' hs' hwk w t hw hfree ht hst hna hnf
  obtain ⟨s0, hinv, hwork, rfl⟩ := (AllocInv_loopInv m p).trace_work h fuel s' hs' hwk
  exact C06_idle_step m p (updated m s0) hwork hinv.1 hinv.2 w t hw hfree ht hst hna hnf

/-- **C06 (c)** at every `ticked` state of `simulate m p s` produced by a working step, for a run
with `initialize_state_info=True` from ANY state `s` (`initialize` resets every allocation list, so
C03 establishes the allocation invariant without any hypothesis on the state before). -/
theorem C06_idle_run' (m : Model) (p : Params) (s : St) (hp : p.initState = true) :
    ∀ s' ∈ runTrace m p s, workingAt p (s'.time - 1) = true →
      ∀ w t, w < m.nW → s'.live.wstate w = .free → t < m.nT →
        (s'.live.tstate t = .ready ∨ s'.live.tstate t = .working) →
        (m.task t).isAuto = false → (m.task t).needFac = false →
        ¬ (hasSkill (m.worker w).skills (m.task t).name = true ∧ teamTargets m w t = true ∧
           canAdd m s'.live t (some w) Option.none = true) :=
  C06_idle_trace m p _ _ (AllocInv_enter m hp _)

/-- `C06_idle_run'` under the additional hypothesis, which the proof does not use, that nothing
is allocated outside the model's index ranges -/
theorem C06_idle_run (m : Model) (p : Params) (s : St)
    (hp : p.initState = true) (_hc : OutClean m s.live) :
    ∀ s' ∈ runTrace m p s, workingAt p (s'.time - 1) = true →
      ∀ w t, w < m.nW → s'.live.wstate w = .free → t < m.nT →
        (s'.live.tstate t = .ready ∨ s'.live.tstate t = .working) →
        (m.task t).isAuto = false → (m.task t).needFac = false →
        ¬ (hasSkill (m.worker w).skills (m.task t).name = true ∧ teamTargets m w t = true ∧
           canAdd m s'.live t (some w) Option.none = true) :=
  C06_idle_run' m p s hp

namespace C06Ex

/-- one READY task, two workers with the skill in the task's team; worker 0 works alone -/
def mI : Model where
  nT := 1
  nW := 2
  nF := 0
  nTeam := 1
  nWp := 0
  nC := 0
  task := fun _ => { name := 0, work := 3 }
  worker := fun w =>
    if w = 0 then { team := 0, skills := [(0, 1)], solo := true } else { team := 0, skills := [(0, 1)] }
  fac := fun _ => {}
  team := fun _ => { workers := [0, 1], targets := [0] }
  wp := fun _ => {}
  comp := fun _ => {}

def lI : Live := { Live.empty with tstate := fun t => if t = 0 then .ready else .none, rem := fun _ => 3 }

def sI : St := { St.fresh with live := lI }

theorem sI_inv : AllocInv mI sI.live ∧ HoldWorking sI.live :=
  AllocInv_of_empty (fun _ => rfl) (fun _ => rfl) (fun _ => rfl) (fun _ => rfl)

end C06Ex

/-- the hypotheses of `C06_idle` hold non-trivially: the pass gives the solo worker 0 to task 0;
worker 1 stays FREE and idle although it has the skill and its team is assigned to the task —
the task cannot accept it (a solo worker is on it) -/
example :
    (1 < C06Ex.mI.nW ∧ (allocate C06Ex.mI Logs.empty .tslack C06Ex.lI).wstate 1 = .free ∧
     (allocate C06Ex.mI Logs.empty .tslack C06Ex.lI).wasg 1 = [] ∧
     0 < C06Ex.mI.nT ∧ C06Ex.lI.tstate 0 = .ready ∧
     (C06Ex.mI.task 0).isAuto = false ∧ (C06Ex.mI.task 0).needFac = false) ∧
    hasSkill (C06Ex.mI.worker 1).skills (C06Ex.mI.task 0).name = true ∧
    teamTargets C06Ex.mI 1 0 = true ∧
    (allocate C06Ex.mI Logs.empty .tslack C06Ex.lI).allocW 0 = [0] ∧
    canAdd C06Ex.mI (allocate C06Ex.mI Logs.empty .tslack C06Ex.lI) 0 (some 1) Option.none = false := by
  decide +kernel

/-- … and so do those of `C06_idle_step`: after the whole step worker 0 is WORKING on task 0,
worker 1 is FREE, task 0 is WORKING -/
example :
    ({} : Params).absence.contains C06Ex.sI.time = false ∧
    (AllocInv C06Ex.mI C06Ex.sI.live ∧ HoldWorking C06Ex.sI.live) ∧
    (stepBody C06Ex.mI {} C06Ex.sI).live.wstate 0 = .working ∧
    (stepBody C06Ex.mI {} C06Ex.sI).live.wstate 1 = .free ∧
    (stepBody C06Ex.mI {} C06Ex.sI).live.tstate 0 = .working :=
  ⟨by decide, C06Ex.sI_inv, by decide +kernel, by decide +kernel, by decide +kernel⟩

/-- the only premise of `C06_idle_run'` is the `initialize_state_info` flag; the incoming state may
be anything, e.g. one that is not clean outside the index ranges -/
example : ({} : Params).initState = true ∧
    ¬ OutClean C06Ex.mI ({ Live.empty with wasg := fun _ => [3] } : Live) :=
  ⟨rfl, fun h => by have := h.2.1 5 (by decide); simp at this⟩

/-- **C06 (d).**  After `__update` no task `t < nT` is WORKING with remaining work ≤ 0 and an
open finish gate (every FF predecessor FINISHED, every SF predecessor started — `finishGate`,
read in the updated state). -/
theorem C06_finish (m : Model) (time : Nat) (l : Live) (t : Nat) (ht : t < m.nT) :
    ¬ ((update m time l).tstate t = .working ∧ (update m time l).rem t ≤ 0 ∧
       finishGate m (update m time l).tstate t = true) :=
  NoWait.update_finish m time l ht

/-- **C06 (d)**, forward form: a task that ends a step WORKING with no work left is FINISHED
after the `__update` at the top of the next iteration, provided its finish dependencies hold
there. -/
theorem C06_finish_next (m : Model) (time : Nat) (l : Live) (t : Nat) (ht : t < m.nT)
    (hw : l.tstate t = .working) (hr : l.rem t ≤ 0)
    (hg : finishGate m (update m time l).tstate t = true) :
    (update m time l).tstate t = .finished :=
  (NoWait.update_finish_next m time l ht hw hr hg).1

/-- **C06 (d)** at every `updated` state of the loop, from any starting state. -/
theorem C06_finish_updTrace (m : Model) (p : Params) (fuel : Nat) (s : St) :
    ∀ s' ∈ updTrace m p fuel s, ∀ t, t < m.nT →
      ¬ (s'.live.tstate t = .working ∧ s'.live.rem t ≤ 0 ∧
         finishGate m s'.live.tstate t = true) := by
  intro s' hs' t ht
  obtain ⟨s1, rfl⟩ := updTrace_mem_updated m p fuel s s' hs'
  exact NoWait.update_finish m s1.time s1.live ht

/-- **C06 (d)** at every `updated` state of `simulate m p s`. -/
theorem C06_finish_run (m : Model) (p : Params) (s : St) :
    ∀ s' ∈ runUpdTrace m p s, ∀ t, t < m.nT →
      ¬ (s'.live.tstate t = .working ∧ s'.live.rem t ≤ 0 ∧
         finishGate m s'.live.tstate t = true) :=
  C06_finish_updTrace m p _ _

/-- in the demo run task 0 ends step 2 WORKING with remaining work 0, and the next `__update`
turns it FINISHED -/
example : ((runTrace Logs.demo Logs.demoP St.fresh)[2]?.map fun s =>
      (s.live.tstate 0, s.live.rem 0, finishGate Logs.demo (update Logs.demo s.time s.live).tstate 0,
       (update Logs.demo s.time s.live).tstate 0)) =
    some (.working, 0, true, .finished) := Logs.demo_states.2.2.2.2.1

end PDesy

#print axioms PDesy.C06_ready
#print axioms PDesy.C06_ready_deps
#print axioms PDesy.C06_ready_updTrace
#print axioms PDesy.C06_ready_run
#print axioms PDesy.C06_auto
#print axioms PDesy.C06_auto_step
#print axioms PDesy.C06_auto_trace
#print axioms PDesy.C06_auto_run
#print axioms PDesy.C06_idle
#print axioms PDesy.C06_idle_step
#print axioms PDesy.C06_idle_trace
#print axioms PDesy.C06_idle_run'
#print axioms PDesy.C06_idle_run
#print axioms PDesy.C06_finish
#print axioms PDesy.C06_finish_next
#print axioms PDesy.C06_finish_updTrace
#print axioms PDesy.C06_finish_run
