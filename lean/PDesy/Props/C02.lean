/-
  PDesy.Props.C02 — "Remaining work changes only by the allocated resources' contribution".

  * `perform` (Model/Phases) is step 4 of the loop; `contrib m l t` is what the model subtracts
    from the remaining work of a WORKING task `t`.
  * `Perform.plainContrib m l t` (Lemmas/Perform) is the *documented* contribution: the unit rate
    of an automatic task; otherwise the sum of the allocated workers' skills (`plainW`: skill
    value, 0 when the worker lacks the skill or is ABSENCE), each multiplied, by position, with
    the paired facility's skill (`plainF`) when the task needs a facility.
  * `Perform.preCost m p s` is the live state at the cost/perform boundary of `stepBody`
    (`l4` in the model): `compCheck (chkWorking? (allocate? (absenceSet s.live)))`.

  The theorems instantiate `perform_rem`, `contrib_eq_plainContrib`, `stepBody_rem`, `finzero_loopInv`
  (Lemmas/Perform), `chkFinished_sound`, `chkFinished_finished_iff` (Finish) and, for the logs, `Logs.run_rowAt`.
-/
import PDesy.Lemmas.Perform
import PDesy.Lemmas.Logs

namespace PDesy
open PDesy.Logs PDesy.Perform PDesy.Finish

variable {m : Model} {p : Params}

/-- **C02 (perform).**  `perform` lowers the remaining work of a task `t < nT` by exactly
`contrib m l t` when the task is WORKING and the step is active for it (a working step, or an
automatic task with `perform_auto_task_while_absence_time` set); the remaining work of every
other task is unchanged; and nothing but `rem` changes. -/
theorem C02_perform (working autoFlag : Bool) (l : Live) :
    (∀ t, t < m.nT →
      (perform m working autoFlag l).rem t =
        if l.tstate t = .working ∧
            (working = true ∨ (autoFlag = true ∧ (m.task t).isAuto = true))
        then l.rem t - contrib m l t else l.rem t) ∧
    (∀ t, ¬ t < m.nT → (perform m working autoFlag l).rem t = l.rem t) ∧
    perform m working autoFlag l = { l with rem := (perform m working autoFlag l).rem } := by
  refine ⟨fun t ht => ?_, fun t ht => ?_, perform_frame working autoFlag l⟩
  · rw [perform_rem]; simp only [ht, true_and]
  · rw [perform_rem, if_neg fun h => ht h.1]

/-- a hand-made state: task 0 of the demo model is WORKING with worker 0, remaining work 2 -/
def c02L : Live := { Live.empty with
  tstate := fun t => if t = 0 then .working else .none
  rem := fun t => if t = 0 then 2 else 0
  allocW := fun t => if t = 0 then [0] else []
  wasg := fun w => if w = 0 then [0] else []
  wstate := fun w => if w = 0 then .working else .free }

example : c02L.tstate 0 = .working ∧ contrib demo c02L 0 = 1 ∧
    (perform demo true false c02L).rem 0 = 1 ∧ (perform demo false false c02L).rem 0 = 2 := by
  decide +kernel

/-- **C02 (contribution).**  Under the allocation invariant (`AllocInv`: allocation two-way
consistent and exclusive) the amount subtracted from a WORKING task is the documented
contribution `plainContrib`: no division by the number of tasks a resource serves remains,
because every allocated worker and facility serves exactly this task. -/
theorem C02_contrib {l : Live} (h : AllocInv m l) {t : Nat} (ht : l.tstate t = .working) :
    contrib m l t = plainContrib m l t :=
  contrib_eq_plainContrib h ht

/-- An absent or unskilled worker/facility contributes exactly 0 (in the documented form and in
the model's `wProgress`/`fProgress`, the latter with no invariant needed). -/
theorem C02_contrib_zero (l : Live) (name : Nat) :
    (∀ w, l.wstate w = .absence ∨ hasSkill (m.worker w).skills name = false →
      plainW m l name w = 0 ∧ wProgress m l name w = 0) ∧
    (∀ f, l.fstate f = .absence ∨ hasSkill (m.fac f).skills name = false →
      plainF m l name f = 0 ∧ fProgress m l name f = 0) :=
  ⟨fun w h => ⟨plainW_zero l name w h, wProgress_zero l name w h⟩,
   fun f h => ⟨plainF_zero l name f h, fProgress_zero l name f h⟩⟩

/-- `perform` in documented terms: under `AllocInv`, an active WORKING task loses exactly
`plainContrib`. -/
theorem C02_perform_plain {l : Live} (h : AllocInv m l) (working autoFlag : Bool) {t : Nat}
    (ht : t < m.nT) (hw : l.tstate t = .working)
    (hact : working = true ∨ (autoFlag = true ∧ (m.task t).isAuto = true)) :
    (perform m working autoFlag l).rem t = l.rem t - plainContrib m l t := by
  rw [(C02_perform working autoFlag l).1 t ht, if_pos ⟨hw, hact⟩, C02_contrib h hw]

/-- `c02L` is worker 0 given to the WORKING task 0 of a state in which nothing is held -/
example : AllocInv demo c02L :=
  AllocInv_giveW (l := { c02L with allocW := fun _ => [], wasg := fun _ => [] }) (t := 0) (w := 0)
    (AllocInv_of_empty (fun _ => rfl) (fun _ => rfl) (fun _ => rfl) (fun _ => rfl)).1 rfl (Or.inr rfl)

example : plainContrib demo c02L 0 = 1 := by decide +kernel

/-- **C02 (frame).**  `compCheck`, `chkRemove`, `chkReady`, `pert`, `absenceSet`, `allocate`
and `chkWorking` do not change any task's remaining work. -/
theorem C02_frame (l : Live) (time : Nat) (wk : Bool) (lg : Logs) (rule : TaskRule) :
    (compCheck m l).rem = l.rem ∧ (chkRemove m l).rem = l.rem ∧ (chkReady m l).rem = l.rem ∧
    (pert m time l).rem = l.rem ∧ (absenceSet m time wk l).rem = l.rem ∧
    (allocate m lg rule l).rem = l.rem ∧ (chkWorking m l).rem = l.rem :=
  ⟨compCheck_rem l, chkRemove_rem l, chkReady_rem l, pert_rem time l, absenceSet_rem time wk l,
    allocate_rem lg rule l, chkWorking_rem l⟩

/-- `check_state(FINISHED)` changes `rem t` only by setting it to 0, and only on the tasks it
turns FINISHED. -/
theorem C02_chkFinished_rem (l : Live) (t : Nat) :
    (chkFinished m l).rem t =
      if (chkFinished m l).tstate t = .finished ∧ l.tstate t ≠ .finished then 0 else l.rem t :=
  chkFinished_rem l t

/-- The same for the whole `__update` block at the top of an iteration. -/
theorem C02_update_rem (time : Nat) (l : Live) (t : Nat) :
    (update m time l).rem t =
      if (update m time l).tstate t = .finished ∧ l.tstate t ≠ .finished then 0 else l.rem t :=
  update_rem_eq time l t

/-- **C02 (never earlier).**  A task that `check_state(FINISHED)` turns FINISHED was WORKING
with remaining work ≤ 0, its FF/SF dependencies hold in the resulting state, and its remaining
work is reported as 0. -/
theorem C02_finish_sound (l : Live) (t : Nat) (h0 : l.tstate t ≠ .finished)
    (h1 : (chkFinished m l).tstate t = .finished) :
    l.tstate t = .working ∧ l.rem t ≤ 0 ∧
    finishGate m (chkFinished m l).tstate t = true ∧ (chkFinished m l).rem t = 0 :=
  chkFinished_sound l t h0 h1

/-- **C02 (never later).**  After `check_state(FINISHED)` no task below `nT` is left WORKING
with remaining work ≤ 0 and an open finish gate: the closure loop (at most `nT + 1` passes)
reaches its fixpoint. -/
theorem C02_finish_complete (l : Live) (t : Nat) (ht : t < m.nT) :
    ¬ ((chkFinished m l).tstate t = .working ∧ (chkFinished m l).rem t ≤ 0 ∧
       finishGate m (chkFinished m l).tstate t = true) :=
  chkFinished_complete l t ht

/-- **C02 (finish, both directions).**  A task `t < nT` that is not FINISHED turns FINISHED in
`check_state(FINISHED)` exactly when it is WORKING, its remaining work is ≤ 0 and its FF/SF
dependencies hold in the resulting state. -/
theorem C02_finish_iff (l : Live) (t : Nat) (ht : t < m.nT) (h0 : l.tstate t ≠ .finished) :
    (chkFinished m l).tstate t = .finished ↔
      (l.tstate t = .working ∧ l.rem t ≤ 0 ∧ finishGate m (chkFinished m l).tstate t = true) :=
  chkFinished_finished_iff l t ht h0

/-- The same for the whole `__update` block: a task not yet FINISHED is FINISHED after the
update at the top of the next iteration exactly when it was WORKING with remaining work ≤ 0 and
its FF/SF dependencies hold in the updated state. -/
theorem C02_update_finish_iff (time : Nat) (l : Live) (t : Nat) (ht : t < m.nT)
    (h0 : l.tstate t ≠ .finished) :
    (update m time l).tstate t = .finished ↔
      (l.tstate t = .working ∧ l.rem t ≤ 0 ∧ finishGate m (update m time l).tstate t = true) := by
  rw [Lifecycle.update_finished_iff, Lifecycle.update_finishGate]
  exact C02_finish_iff l t ht h0

/-- in the demo run task 0 is WORKING with remaining work 0 after step 2 and is turned
FINISHED by the next `check_state(FINISHED)` -/
example : ((runTrace demo demoP St.fresh)[2]?.map fun s =>
      (s.live.tstate 0, s.live.rem 0, (chkFinished demo s.live).tstate 0)) =
    some (.working, 0, .finished) := demo_states.2.2.2.1

/-- **C02 (init).**  After `initialize(state_info=True)` the remaining work of every task is
`default_work_amount * (1 - default_progress)` (the bound `ht` is not needed: `initialize` resets
the remaining work at every index). -/
theorem C02_init (logInfo : Bool) (s : St) (t : Nat) (ht : t < m.nT) :
    (initProject m true logInfo s).live.rem t = (m.task t).work * (1 - (m.task t).prog) := by
  rw [initProject_rem, initLive_eq]

example : (initProject demo true true St.fresh).live.rem 0 = 2 := by decide +kernel

/-- the state `preCost` abbreviates, spelled out as in `stepBody`: `check_state(WORKING)` runs
on working steps and, when automatic tasks are performed during absence, on absence steps; at a
project absence step with the flag off nothing starts -/
theorem C02_preCost_eq (s1 : St) :
    preCost m p s1 =
      compCheck m
        (if workingAt p s1.time || p.autoFlag then chkWorking m
          (if workingAt p s1.time then
            allocate m s1.logs p.rule (absenceSet m s1.time (workingAt p s1.time) s1.live)
           else absenceSet m s1.time (workingAt p s1.time) s1.live)
         else
          (if workingAt p s1.time then
            allocate m s1.logs p.rule (absenceSet m s1.time (workingAt p s1.time) s1.live)
           else absenceSet m s1.time (workingAt p s1.time) s1.live)) := rfl

/-- **C02 (step).**  One loop step (`stepBody`, from any state `s1`, in particular
`s1 = updated m s`) lowers the remaining work of task `t` by `contrib m l4 t` exactly when
`t < nT` is WORKING after `check_state(WORKING)` and the step is active for it, where
`l4 = preCost m p s1` is the live state at the cost/perform boundary; otherwise the remaining
work is unchanged.  The task states after the step are those of `l4`, and the contribution can
equally be read off the state the step records. -/
theorem C02_step (s1 : St) (t : Nat) :
    (stepBody m p s1).live.rem t =
      (if t < m.nT ∧ (preCost m p s1).tstate t = .working ∧
          (workingAt p s1.time = true ∨ (p.autoFlag = true ∧ (m.task t).isAuto = true))
       then s1.live.rem t - contrib m (preCost m p s1) t else s1.live.rem t) ∧
    (stepBody m p s1).live.tstate = (preCost m p s1).tstate ∧
    contrib m (stepBody m p s1).live t = contrib m (preCost m p s1) t :=
  ⟨stepBody_rem p s1 t, stepBody_tstate_preCost p s1, stepBody_contrib p s1 t⟩

/-- **C02 (iteration).**  A whole loop iteration (`__update`, then the step): the remaining work
is first set to 0 if the task is newly FINISHED, then lowered by the contribution if the task is
WORKING and the step active.  Everything on the right is read off the state before (`s`) and the
state the iteration records (`s' = stepBody m p (updated m s)`). -/
theorem C02_iteration (s : St) (t : Nat) :
    (stepBody m p (updated m s)).live.rem t =
      (if (stepBody m p (updated m s)).live.tstate t = .finished ∧ s.live.tstate t ≠ .finished
        then 0 else s.live.rem t) -
      (if t < m.nT ∧ (stepBody m p (updated m s)).live.tstate t = .working ∧
          (workingAt p s.time = true ∨ (p.autoFlag = true ∧ (m.task t).isAuto = true))
       then contrib m (stepBody m p (updated m s)).live t else 0) := by
  obtain ⟨h1, h2, h3⟩ := C02_step (p := p) (updated m s) t
  rw [h1, h2, h3, ite_sub_ite, updated_time, updated_live, update_rem_eq]
  simp only [(preCost_start p (updated m s)).finished_iff t, updated_live]

/-- **C02 (trace).**  Consecutive recorded states of the loop: `trace[k+1]` arises from
`trace[k]` by one iteration, so its remaining work obeys `C02_iteration`. -/
theorem C02_trace_step (fuel : Nat) (s : St) (k : Nat) (hk : k + 1 < (trace m p fuel s).length)
    (t : Nat) :
    ((trace m p fuel s)[k + 1]).live.rem t =
      (if ((trace m p fuel s)[k + 1]).live.tstate t = .finished ∧
          ((trace m p fuel s)[k]).live.tstate t ≠ .finished
        then 0 else ((trace m p fuel s)[k]).live.rem t) -
      (if t < m.nT ∧ ((trace m p fuel s)[k + 1]).live.tstate t = .working ∧
          (workingAt p (s.time + k + 1) = true ∨ (p.autoFlag = true ∧ (m.task t).isAuto = true))
       then contrib m ((trace m p fuel s)[k + 1]).live t else 0) := by
  rw [trace_succ fuel s k hk, C02_iteration, trace_time fuel s k (Nat.lt_of_succ_lt hk)]

/-- the first recorded state arises from the start state by one iteration -/
theorem C02_trace_first (fuel : Nat) (s : St) (h0 : 0 < (trace m p fuel s).length) (t : Nat) :
    ((trace m p fuel s)[0]).live.rem t =
      (if ((trace m p fuel s)[0]).live.tstate t = .finished ∧ s.live.tstate t ≠ .finished
        then 0 else s.live.rem t) -
      (if t < m.nT ∧ ((trace m p fuel s)[0]).live.tstate t = .working ∧
          (workingAt p s.time = true ∨ (p.autoFlag = true ∧ (m.task t).isAuto = true))
       then contrib m ((trace m p fuel s)[0]).live t else 0) := by
  rw [trace_zero fuel s h0, C02_iteration]

/-- **C02 (FINISHED reports 0), trace form.**  If the start state reports 0 for task `t` when it
is FINISHED, so does every recorded state of the loop. -/
theorem C02_trace_finished_zero (fuel : Nat) (s : St) (t : Nat)
    (h : s.live.tstate t = .finished → s.live.rem t = 0) :
    ∀ s' ∈ trace m p fuel s, s'.live.tstate t = .finished → s'.live.rem t = 0 :=
  (finzero_loopInv p t).trace h fuel

example : 2 < (trace demo demoP 9 St.fresh).length := demo_trace

/-- **C02 (log).**  In the logs of a run (with `initLog = true`), for consecutive executed steps
`k`, `k+1` and a task `t < nT`: entry `k+1` of `remaining_work_amount_record_list` is entry `k`
— replaced by 0 if the task's logged state turns FINISHED between the two entries — minus the
contribution computed at step `k+1` if the task is then WORKING and the step is active for it
(`contrib` evaluated on the live state recorded at step `k+1`, which by C08 is the state row
`k+1` of the logs displays). -/
theorem C02_run_log (s : St) (h : p.initLog = true) (k : Nat)
    (hk : k + 1 < (runTrace m p s).length) (t : Nat) (ht : t < m.nT) :
    ∃ a b, ((simulate m p s).logs.tRem t)[k]? = some a ∧
      ((simulate m p s).logs.tRem t)[k + 1]? = some b ∧
      b = (if ((simulate m p s).logs.tState t)[k + 1]? = some .finished ∧
              ((simulate m p s).logs.tState t)[k]? ≠ some .finished then 0 else a) -
          (if ((runTrace m p s)[k + 1]).live.tstate t = .working ∧
              (workingAt p (k + 1) = true ∨ (p.autoFlag = true ∧ (m.task t).isAuto = true))
           then contrib m ((runTrace m p s)[k + 1]).live t else 0) := by
  have r0 := run_rowAt (m := m) s h k (Nat.lt_of_succ_lt hk)
  have r1 := run_rowAt (m := m) s h (k + 1) hk
  refine ⟨_, _, r0.tRem t ht, r1.tRem t ht, ?_⟩
  rw [r0.tState t ht, r1.tState t ht]
  unfold runTrace at hk ⊢
  rw [C02_trace_step (p := p) _ _ k hk t, enter_time s h]
  simp only [Option.some.injEq, ne_eq, Lifecycle.showT_finished_iff, Nat.zero_add, ht, true_and]

/-- **C02 (log, FINISHED is 0), general form.**  If the state the run enters its loop with
reports 0 for `t` whenever `t` is FINISHED, every log row that shows `t` FINISHED shows
remaining work 0. -/
theorem C02_run_finished_zero_of (s : St) (h : p.initLog = true) (t : Nat) (ht : t < m.nT)
    (h0 : (enter m p s).live.tstate t = .finished → (enter m p s).live.rem t = 0)
    (k : Nat) (hk : k < (runTrace m p s).length)
    (hf : ((simulate m p s).logs.tState t)[k]? = some .finished) :
    ((simulate m p s).logs.tRem t)[k]? = some 0 := by
  have r := run_rowAt (m := m) s h k hk
  rw [r.tState t ht] at hf
  rw [r.tRem t ht]
  simp only [Option.some.injEq, Lifecycle.showT_finished_iff] at hf
  exact congrArg some (C02_trace_finished_zero (p := p) (fuelOf p (enter m p s)) (enter m p s) t h0 _
    (List.getElem_mem hk) hf)

/-- **C02 (log, FINISHED is 0).**  After a run with `initState = initLog = true`, for a task not
finished by its default progress, every log row whose state entry is FINISHED has remaining
work 0. -/
theorem C02_run_finished_zero (s : St) (h : p.initLog = true) (hs : p.initState = true)
    (t : Nat) (ht : t < m.nT) (hex : ¬ exempt m t)
    (k : Nat) (hk : k < (runTrace m p s).length)
    (hf : ((simulate m p s).logs.tState t)[k]? = some .finished) :
    ((simulate m p s).logs.tRem t)[k]? = some 0 :=
  C02_run_finished_zero_of s h t ht (fun hfin => absurd hfin (enter_not_finished hs s t hex)) k hk hf

example : demoP.initLog = true ∧ demoP.initState = true ∧ ¬ exempt demo 0 ∧
    (runTrace demo demoP St.fresh).length = 4 := by
  exact ⟨rfl, rfl, by decide +kernel, demo_run.2.2.1⟩

/-- the demo run: task 0 (work 2, one worker of skill 1, step 1 a project absence) -/
example : (simulate demo demoP St.fresh).logs.tRem 0 = [1, 1, 0, 0] ∧
    (simulate demo demoP St.fresh).logs.tState 0 = [.working, .ready, .working, .finished] := by
  obtain ⟨-, -, -, -, hr, ht, -⟩ := demo_run
  exact ⟨hr, ht⟩

end PDesy

#print axioms PDesy.C02_perform
#print axioms PDesy.C02_contrib
#print axioms PDesy.C02_contrib_zero
#print axioms PDesy.C02_perform_plain
#print axioms PDesy.C02_frame
#print axioms PDesy.C02_chkFinished_rem
#print axioms PDesy.C02_update_rem
#print axioms PDesy.C02_finish_sound
#print axioms PDesy.C02_finish_complete
#print axioms PDesy.C02_finish_iff
#print axioms PDesy.C02_update_finish_iff
#print axioms PDesy.C02_init
#print axioms PDesy.C02_preCost_eq
#print axioms PDesy.C02_step
#print axioms PDesy.C02_iteration
#print axioms PDesy.C02_trace_step
#print axioms PDesy.C02_trace_first
#print axioms PDesy.C02_trace_finished_zero
#print axioms PDesy.C02_run_log
#print axioms PDesy.C02_run_finished_zero_of
#print axioms PDesy.C02_run_finished_zero
