/-
  PDesy.Props.C06Unplaced — property C06 ("no avoidable waiting"), the "still unplaced" clause
  of the worker–facility-PAIR form.

  `Props/C06Pairs.lean` treats a facility-needing task whose (single-task) component IS placed
  after the allocation pass.  This file treats the remaining case: the component is still NOT
  placed after the pass.  Step 3-1 of the allocation loop (`placeStep`) offers a ready component,
  at the turn of its task `t`, to the workplaces of `t` in the order of the workplace rule, and
  moves it to the first one that passes `placeOk`: conveyor rule (the workplace declares no input
  workplaces, or the component is nowhere, or it sits at one of the inputs), free space at least
  the component's size, positive total facility skill for the task.

    A READY task `t` that is the single task of its component `c`: if `c` is not placed after the
    pass, then NO workplace of `t` passed `placeOk` —
      (1) in the state at `t`'s turn in the loop (`C06_unplaced_turn`), unconditionally;
      (2) in the state after the pass (`C06_unplaced`, `C06_unplaced_obs`), if nothing was moved
          in this pass;
    and the same at the end of a working step (`C06_unplaced_step`, `C06_unplaced_step_obs`) and
    along a run (`C06_unplaced_run`).

  Why "nothing was moved" in (2): the loop is one pass.  A component that a LATER task moves away
  frees its space only after `t`'s turn; that wait is inherent in the one-pass loop and is not
  excluded by the code.  Without the hypothesis (2) is false — `C06UnplacedEx.mX` below, a state
  reached by a run.  "Nothing was moved" comes in two forms:
    * ghost form: `Place.passMoves m lg rule l = []`, the list of the moves executed in the pass
      (it is the `moved` field of the loop accumulator, `Place.passMoves_eq`);
    * observable form: no component of the model is at a different place after the pass than
      before it.  A pass can also put a component back at the workplace where it already is (the
      test measures free space before the component leaves); such a move changes at most the
      order of that workplace's list, hence no free space — but to know that, the incoming state
      must satisfy the placement invariant `Place.Inv` of C13 and the model must be `PlaceWF`.

  Readiness of the component (`isReady`) is a separate test of `placeStep` and is a HYPOTHESIS
  here, in the form: `t` is READY and holds no worker (a READY task that already holds a worker
  counts as working in `is_ready`, so its component is not offered to any workplace: example
  below).  At the end of a working step a READY task never holds a worker, so the step-level
  theorems need no such hypothesis.

  The hypotheses `isAuto = false` and `needFac = true` of the pair form are not needed: step 3-1
  runs for every candidate task, so the clause is proved for every READY task with a component.

  The theorems instantiate `Turn.unplaced`, `Turn.placeOk_still`, `Turn.placeOk_same` (Lemmas/Unplaced)
  and, at the end of a step, `stepBody_ready_work`, `stepBody_placeOk` (Lemmas/NoWait).
-/
import PDesy.Lemmas.Unplaced

namespace PDesy

open Unplaced

/-- **C06, still unplaced, at the task's turn.**  Let `l' = allocate m lg rule l`.  Task `t < nT`
is READY in `l` and holds no worker, its component is `c`, and `c` carries `t` alone (`hlink`:
every task below `nT` that names `c` as its component is listed by `c`; `hsingle`: `c` lists `t`
only).  If `c` is not placed in `l'`, then every workplace `p` of `t` failed the test `placeOk`
(conveyor rule, free space ≥ size, positive facility skill) in `turnState m lg rule l t` — the
live state of the loop when it reached `t` (the fold of `allocTask` over the candidates sorted
before `t`). -/
theorem C06_unplaced_turn (m : Model) (lg : Logs) (rule : TaskRule) (l : Live) (t c : Nat)
    (ht : t < m.nT) (hs : l.tstate t = .ready) (hnoW : l.allocW t = [])
    (hc : (m.task t).comp = some c)
    (hlink : ∀ t', t' < m.nT → (m.task t').comp = some c → t' ∈ (m.comp c).tasks)
    (hsingle : (m.comp c).tasks = [t])
    (hpl : (allocate m lg rule l).placed c = Option.none) :
    ∀ p ∈ (m.task t).wps, placeOk m (turnState m lg rule l t) t c p = false := by
  obtain ⟨pre, post, a0, a1, b, h⟩ := allocate_turn (lg := lg) (rule := rule) ht (Or.inl hs)
  rw [h.turnState_eq]
  exact h.unplaced hs hnoW hc (.of_tasks hlink hsingle) hsingle hpl

/-- **C06, still unplaced, after the pass — ghost form of "nothing moved".**  As
`C06_unplaced_turn`; in addition no move was executed in this pass (`Place.passMoves … = []`).
Then every workplace `p` of `t` fails `placeOk` in the state AFTER the pass: a ready single-task
component that is still unplaced after a pass in which nothing moved could not enter any of its
task's workplaces. -/
theorem C06_unplaced (m : Model) (lg : Logs) (rule : TaskRule) (l : Live) (t c : Nat)
    (ht : t < m.nT) (hs : l.tstate t = .ready) (hnoW : l.allocW t = [])
    (hc : (m.task t).comp = some c)
    (hlink : ∀ t', t' < m.nT → (m.task t').comp = some c → t' ∈ (m.comp c).tasks)
    (hsingle : (m.comp c).tasks = [t])
    (hpl : (allocate m lg rule l).placed c = Option.none)
    (hnm : Place.passMoves m lg rule l = []) :
    ∀ p ∈ (m.task t).wps, placeOk m (allocate m lg rule l) t c p = false := by
  intro p hp
  obtain ⟨pre, post, a0, a1, b, h⟩ := allocate_turn (lg := lg) (rule := rule) ht (Or.inl hs)
  rw [h.placeOk_still hnm]
  exact h.unplaced hs hnoW hc (.of_tasks hlink hsingle) hsingle hpl p hp

/-- **C06, still unplaced, after the pass — observable form of "nothing moved".**  As
`C06_unplaced_turn`, for a model that is well-formed for placement (`PlaceWF`: flat product,
non-negative sizes and capacities, consistent task → component links, which is why `hlink` is not
asked for) and a state before the pass that satisfies the placement invariant of C13
(`Place.Inv`); and NO component of the model is at a different place after the pass than before
it.  Then every workplace of `t` fails `placeOk` in the state after the pass. -/
theorem C06_unplaced_obs (m : Model) (wf : Place.PlaceWF m) (lg : Logs) (rule : TaskRule)
    (l : Live) (hinv : Place.Inv m l) (t c : Nat)
    (ht : t < m.nT) (hs : l.tstate t = .ready) (hnoW : l.allocW t = [])
    (hc : (m.task t).comp = some c) (hsingle : (m.comp c).tasks = [t])
    (hpl : (allocate m lg rule l).placed c = Option.none)
    (hsame : ∀ c', c' < m.nC → (allocate m lg rule l).placed c' = l.placed c') :
    ∀ p ∈ (m.task t).wps, placeOk m (allocate m lg rule l) t c p = false := by
  intro p hp
  obtain ⟨pre, post, a0, a1, b, h⟩ := allocate_turn (lg := lg) (rule := rule) ht (Or.inl hs)
  rw [h.placeOk_same wf hinv hsame (wf.comp_lt t ht c hc)]
  exact h.unplaced hs hnoW hc (.of_wf wf hsingle) hsingle hpl p hp

/-- **C06, still unplaced, at the end of a working step — ghost form.**  `C06_unplaced` read at the
end of the step: `t` is READY there (so it holds no worker: `check_state(WORKING)` starts every
READY task that holds one), `c` is not placed there, and no move was executed in the step's
allocation pass.  No invariant of the incoming state is needed. -/
theorem C06_unplaced_step (m : Model) (p : Params) (s : St)
    (hwork : p.absence.contains s.time = false) (t c : Nat)
    (ht : t < m.nT) (hs : (stepBody m p s).live.tstate t = .ready)
    (hc : (m.task t).comp = some c)
    (hlink : ∀ t', t' < m.nT → (m.task t').comp = some c → t' ∈ (m.comp c).tasks)
    (hsingle : (m.comp c).tasks = [t])
    (hpl : (stepBody m p s).live.placed c = Option.none)
    (hnm : Place.passMoves m s.logs p.rule (absenceSet m s.time true s.live) = []) :
    ∀ q ∈ (m.task t).wps, placeOk m (stepBody m p s).live t c q = false := by
  intro q hq
  obtain ⟨hs1, hw1⟩ := NoWait.stepBody_ready_work m p s hwork ht hs
  rw [(NoWait.stepBody_lists_work m p s hwork).2.1] at hpl
  rw [NoWait.stepBody_placeOk m p s hwork]
  exact C06_unplaced m s.logs p.rule _ t c ht hs1 hw1 hc hlink hsingle hpl hnm q hq

/-- **C06, still unplaced, at the end of a working step — observable form.**  `C06_unplaced_obs`
read at the end of the step: the state the step starts from satisfies the placement invariant, and
no component of the model is at a different place at the end of the step than at its start. -/
theorem C06_unplaced_step_obs (m : Model) (wf : Place.PlaceWF m) (p : Params) (s : St)
    (hwork : p.absence.contains s.time = false) (hinv : Place.Inv m s.live) (t c : Nat)
    (ht : t < m.nT) (hs : (stepBody m p s).live.tstate t = .ready)
    (hc : (m.task t).comp = some c) (hsingle : (m.comp c).tasks = [t])
    (hpl : (stepBody m p s).live.placed c = Option.none)
    (hsame : ∀ c', c' < m.nC → (stepBody m p s).live.placed c' = s.live.placed c') :
    ∀ q ∈ (m.task t).wps, placeOk m (stepBody m p s).live t c q = false := by
  intro q hq
  obtain ⟨hs1, hw1⟩ := NoWait.stepBody_ready_work m p s hwork ht hs
  rw [(NoWait.stepBody_lists_work m p s hwork).2.1] at hpl hsame
  rw [NoWait.stepBody_placeOk m p s hwork]
  exact C06_unplaced_obs m wf s.logs p.rule _ (Place.Inv_absenceSet m _ _ hinv) t c ht hs1 hw1 hc
    hsingle hpl hsame q hq

/-- **C06, still unplaced, along a run.**  In `simulate m p s` with `initialize_state_info=True`, from
ANY state `s`, for a `PlaceWF` model: every `ticked` state `s'` produced by a working step is the end
of a step started from an `updated` state `u` (the state right after `__update`) such that: a task
`t < nT` READY in `s'`, the single task of its component `c`, `c` not placed in `s'`, no component
of the model at a different place in `s'` than in `u` — then every workplace of `t` fails
`placeOk` in `s'`. -/
theorem C06_unplaced_run (m : Model) (wf : Place.PlaceWF m) (p : Params) (s : St)
    (hp : p.initState = true) :
    ∀ s' ∈ runTrace m p s, workingAt p (s'.time - 1) = true →
      ∃ s0, s' = stepBody m p (updated m s0) ∧
        ∀ t c, t < m.nT → s'.live.tstate t = .ready → (m.task t).comp = some c →
          (m.comp c).tasks = [t] → s'.live.placed c = Option.none →
          (∀ c', c' < m.nC → s'.live.placed c' = (updated m s0).live.placed c') →
          ∀ q ∈ (m.task t).wps, placeOk m s'.live t c q = false := by
  intro s' hs' hwk
  have h0 := Place.Inv_enter m wf hp s
  obtain ⟨s0, hinv, hwork, rfl⟩ := (Place.Inv_loopInv m wf p).trace_work h0 _ s' hs' hwk
  refine ⟨s0, rfl, fun t c ht hst hc hsingle hpl hsame => ?_⟩
  exact C06_unplaced_step_obs m wf p (updated m s0) hwork hinv t c ht hst hc hsingle hpl hsame

namespace C06UnplacedEx

/-- two READY facility-needing tasks, each the single task of its own component (task `i` ↔
component `i`); both components can only be worked on at workplace 0, which has room for one -/
def mU : Model where
  nT := 2
  nW := 2
  nF := 1
  nTeam := 1
  nWp := 1
  nC := 2
  task := fun t => { name := 0, work := 3, needFac := true, wps := [0], comp := some t }
  worker := fun _ => { team := 0, skills := [(0, 1)], facSkills := [(0, 1)] }
  fac := fun _ => { wp := 0, name := 0, skills := [(0, 1)] }
  team := fun _ => { workers := [0, 1], targets := [0, 1] }
  wp := fun _ => { facs := [0], targets := [0, 1], cap := 1 }
  comp := fun c => { tasks := [c] }

/-- the state of a run of `mU` right after the `__update` at time 1: in step 0 component 0 went to
workplace 0 and task 0 started; task 1 is READY, component 1 is waiting outside -/
def sU : St := updated mU (stepBody mU {} (updated mU (enter mU {} St.fresh)))

theorem mU_wf : Place.PlaceWF mU := by decide +kernel

theorem sU_inv : Place.Inv mU sU.live :=
  Place.Inv_update mU mU_wf _ (Place.Inv_stepBody mU mU_wf _ _ (Place.Inv_update mU mU_wf _
    (Place.Inv_enter mU mU_wf rfl _)))

theorem mU_link : ∀ t', t' < mU.nT → (mU.task t').comp = some 1 → t' ∈ (mU.comp 1).tasks := by
  decide +kernel

/-- Task 2 (automatic, one step long) precedes task 0.  Task 0 (short) needs workplace 0; task 1
(long) can be done at workplace 0 or 1; each workplace has room for one component and one
facility.  The only worker is absent at time 0. -/
def mX : Model where
  nT := 3
  nW := 1
  nF := 2
  nTeam := 1
  nWp := 2
  nC := 2
  task := fun t =>
    if t = 0 then { name := 0, work := 1, needFac := true, wps := [0], comp := some 0,
                    inputs := [(2, .fs)] }
    else if t = 1 then { name := 0, work := 3, needFac := true, wps := [0, 1], comp := some 1 }
    else { name := 1, work := 1, isAuto := true, outputs := [(0, .fs)] }
  worker := fun _ =>
    { team := 0, skills := [(0, 1)], facSkills := [(0, 1), (1, 1)], absence := [0] }
  fac := fun f => { wp := f, name := f, skills := [(0, 1)] }
  team := fun _ => { workers := [0], targets := [0, 1] }
  wp := fun q => { facs := [q], targets := [0, 1], cap := 1 }
  comp := fun c => { tasks := [c] }

/-- shortest processing time first -/
def pX : Params := { rule := .spt }

/-- the state of the run of `mX` right after the `__update` at time 1.  In step 0 component 1 went
to workplace 0 but task 1 got no worker (absent), so it is still READY; task 2 ran and is
FINISHED, so task 0 is READY now, its component 0 not placed. -/
def sX : St := updated mX (stepBody mX pX (updated mX (enter mX pX St.fresh)))

theorem mX_wf : Place.PlaceWF mX := by decide +kernel

theorem sX_inv : Place.Inv mX sX.live :=
  Place.Inv_update mX mX_wf _ (Place.Inv_stepBody mX mX_wf _ _ (Place.Inv_update mX mX_wf _
    (Place.Inv_enter mX mX_wf rfl _)))

theorem mX_link : ∀ t', t' < mX.nT → (mX.task t').comp = some 0 → t' ∈ (mX.comp 0).tasks := by
  decide +kernel

end C06UnplacedEx

/-- the hypotheses of `C06_unplaced_turn`, `C06_unplaced` and `C06_unplaced_obs` hold
non-trivially, in a state reached by a run: in `C06UnplacedEx.sU` (time 1) task 0 is WORKING with
component 0 at workplace 0, which is thereby full; task 1 is READY without worker, the single task
of component 1; the pass moves nothing, component 1 stays unplaced — and indeed workplace 0, its
only candidate, fails `placeOk`, for lack of space only (no conveyor restriction, skill sum 1) -/
example :
    (1 < C06UnplacedEx.mU.nT ∧ C06UnplacedEx.sU.live.tstate 1 = .ready ∧
     C06UnplacedEx.sU.live.allocW 1 = [] ∧
     (C06UnplacedEx.mU.task 1).isAuto = false ∧ (C06UnplacedEx.mU.task 1).needFac = true ∧
     (C06UnplacedEx.mU.task 1).comp = some 1 ∧ (C06UnplacedEx.mU.comp 1).tasks = [1] ∧
     (allocate C06UnplacedEx.mU C06UnplacedEx.sU.logs .tslack C06UnplacedEx.sU.live).placed 1
       = Option.none ∧
     Place.passMoves C06UnplacedEx.mU C06UnplacedEx.sU.logs .tslack C06UnplacedEx.sU.live = [] ∧
     (∀ c', c' < C06UnplacedEx.mU.nC →
       (allocate C06UnplacedEx.mU C06UnplacedEx.sU.logs .tslack C06UnplacedEx.sU.live).placed c'
         = C06UnplacedEx.sU.live.placed c') ∧
     (C06UnplacedEx.mU.task 1).wps = [0]) ∧
    C06UnplacedEx.sU.time = 1 ∧ C06UnplacedEx.sU.live.tstate 0 = .working ∧
    C06UnplacedEx.sU.live.placed 0 = some 0 ∧
    (C06UnplacedEx.mU.wp 0).inputs = [] ∧ (C06UnplacedEx.mU.comp 1).size = 1 ∧
    availSpace C06UnplacedEx.mU
      (allocate C06UnplacedEx.mU C06UnplacedEx.sU.logs .tslack C06UnplacedEx.sU.live) 0 = 0 ∧
    wpSkillSum C06UnplacedEx.mU 0 (C06UnplacedEx.mU.task 1).name = 1 ∧
    placeOk C06UnplacedEx.mU
      (turnState C06UnplacedEx.mU C06UnplacedEx.sU.logs .tslack C06UnplacedEx.sU.live 1) 1 1 0
      = false ∧
    placeOk C06UnplacedEx.mU
      (allocate C06UnplacedEx.mU C06UnplacedEx.sU.logs .tslack C06UnplacedEx.sU.live) 1 1 0
      = false := by
  decide +kernel

/-- … the link hypothesis, `PlaceWF` and the placement invariant hold there … -/
example : (∀ t', t' < C06UnplacedEx.mU.nT → (C06UnplacedEx.mU.task t').comp = some 1 →
      t' ∈ (C06UnplacedEx.mU.comp 1).tasks) ∧ Place.PlaceWF C06UnplacedEx.mU ∧
    Place.Inv C06UnplacedEx.mU C06UnplacedEx.sU.live :=
  ⟨C06UnplacedEx.mU_link, C06UnplacedEx.mU_wf, C06UnplacedEx.sU_inv⟩

/-- … and so do the hypotheses of `C06_unplaced_step`, `C06_unplaced_step_obs` (and of the clause
of `C06_unplaced_run`: `sU` is an `updated` state of the run): after the whole step task 0 is
still WORKING at workplace 0, task 1 still READY, component 1 still unplaced, worker 1 FREE (the
only facility is busy), nothing was moved, and workplace 0 fails `placeOk` for component 1 -/
example :
    ({} : Params).absence.contains C06UnplacedEx.sU.time = false ∧
    (stepBody C06UnplacedEx.mU {} C06UnplacedEx.sU).live.tstate 1 = .ready ∧
    (stepBody C06UnplacedEx.mU {} C06UnplacedEx.sU).live.placed 1 = Option.none ∧
    Place.passMoves C06UnplacedEx.mU C06UnplacedEx.sU.logs ({} : Params).rule
      (absenceSet C06UnplacedEx.mU C06UnplacedEx.sU.time true C06UnplacedEx.sU.live) = [] ∧
    (∀ c', c' < C06UnplacedEx.mU.nC →
      (stepBody C06UnplacedEx.mU {} C06UnplacedEx.sU).live.placed c'
        = C06UnplacedEx.sU.live.placed c') ∧
    (stepBody C06UnplacedEx.mU {} C06UnplacedEx.sU).live.tstate 0 = .working ∧
    (stepBody C06UnplacedEx.mU {} C06UnplacedEx.sU).live.placed 0 = some 0 ∧
    (stepBody C06UnplacedEx.mU {} C06UnplacedEx.sU).live.wstate 1 = .free ∧
    placeOk C06UnplacedEx.mU (stepBody C06UnplacedEx.mU {} C06UnplacedEx.sU).live 1 1 0 = false := by
  decide +kernel

/-- **the "nothing moved" hypothesis cannot be dropped** (the full statement — `C06_unplaced`
without `hnm`, `C06_unplaced_obs` without `hsame` — is false).  In `C06UnplacedEx.sX`, a state
reached by a run of `mX` (time 1, rule SPT), the candidates are sorted `[0, 1]`.  At task 0's turn
workplace 0 is still occupied by component 1, so component 0 stays outside.  At task 1's turn
component 1 (READY, no worker yet) is offered to workplace 1 first (more free space) and moves
there.  After the pass component 0 is unplaced, every other hypothesis holds (with `hlink`,
`PlaceWF`, `Place.Inv`: next example), the turn-state conclusion holds — and workplace 0 now
passes `placeOk` for component 0.  The ghost list is `[1]`, and component 1 is visibly elsewhere. -/
example :
    (0 < C06UnplacedEx.mX.nT ∧ C06UnplacedEx.sX.live.tstate 0 = .ready ∧
     C06UnplacedEx.sX.live.allocW 0 = [] ∧
     (C06UnplacedEx.mX.task 0).isAuto = false ∧ (C06UnplacedEx.mX.task 0).needFac = true ∧
     (C06UnplacedEx.mX.task 0).comp = some 0 ∧ (C06UnplacedEx.mX.comp 0).tasks = [0] ∧
     (allocate C06UnplacedEx.mX C06UnplacedEx.sX.logs .spt C06UnplacedEx.sX.live).placed 0
       = Option.none ∧
     0 ∈ (C06UnplacedEx.mX.task 0).wps) ∧
    sortTasks C06UnplacedEx.mX C06UnplacedEx.sX.live C06UnplacedEx.sX.logs .spt
      (NoWait.cands C06UnplacedEx.mX C06UnplacedEx.sX.live) = [0, 1] ∧
    C06UnplacedEx.sX.live.placed 1 = some 0 ∧
    (allocate C06UnplacedEx.mX C06UnplacedEx.sX.logs .spt C06UnplacedEx.sX.live).placed 1
      = some 1 ∧
    Place.passMoves C06UnplacedEx.mX C06UnplacedEx.sX.logs .spt C06UnplacedEx.sX.live = [1] ∧
    placeOk C06UnplacedEx.mX
      (turnState C06UnplacedEx.mX C06UnplacedEx.sX.logs .spt C06UnplacedEx.sX.live 0) 0 0 0
      = false ∧
    placeOk C06UnplacedEx.mX
      (allocate C06UnplacedEx.mX C06UnplacedEx.sX.logs .spt C06UnplacedEx.sX.live) 0 0 0
      = true := by
  decide +kernel

/-- … with the link hypothesis, `PlaceWF` and the placement invariant … -/
example : (∀ t', t' < C06UnplacedEx.mX.nT → (C06UnplacedEx.mX.task t').comp = some 0 →
      t' ∈ (C06UnplacedEx.mX.comp 0).tasks) ∧ Place.PlaceWF C06UnplacedEx.mX ∧
    Place.Inv C06UnplacedEx.mX C06UnplacedEx.sX.live :=
  ⟨C06UnplacedEx.mX_link, C06UnplacedEx.mX_wf, C06UnplacedEx.sX_inv⟩

/-- … and the same at the end of the working step from `sX`: task 0 READY, component 0 unplaced,
component 1 moved from workplace 0 to 1 (task 1 now WORKING there), and workplace 0 would take
component 0 -/
example :
    C06UnplacedEx.pX.absence.contains C06UnplacedEx.sX.time = false ∧
    (stepBody C06UnplacedEx.mX C06UnplacedEx.pX C06UnplacedEx.sX).live.tstate 0 = .ready ∧
    (stepBody C06UnplacedEx.mX C06UnplacedEx.pX C06UnplacedEx.sX).live.placed 0 = Option.none ∧
    C06UnplacedEx.sX.live.placed 1 = some 0 ∧
    (stepBody C06UnplacedEx.mX C06UnplacedEx.pX C06UnplacedEx.sX).live.placed 1 = some 1 ∧
    (stepBody C06UnplacedEx.mX C06UnplacedEx.pX C06UnplacedEx.sX).live.tstate 1 = .working ∧
    placeOk C06UnplacedEx.mX
      (stepBody C06UnplacedEx.mX C06UnplacedEx.pX C06UnplacedEx.sX).live 0 0 0 = true := by
  decide +kernel

/-- **the hypothesis "`t` holds no worker" of the `allocate`-level theorems cannot be dropped.**
A READY task that already holds a worker counts as working in `is_ready`, so its component is not
offered to any workplace: in `mU` with task 0 READY holding worker 0 and nothing placed, the pass
leaves component 0 unplaced and moves nothing, although workplace 0 is empty and passes `placeOk`.
(At the end of a working step a READY task never holds a worker.) -/
example :
    let l : Live := { Live.empty with tstate := fun t => if t = 0 then .ready else .none,
                                       allocW := fun t => if t = 0 then [0] else [],
                                       wasg := fun w => if w = 0 then [0] else [],
                                       wstate := fun w => if w = 0 then .working else .free }
    l.tstate 0 = .ready ∧ l.allocW 0 = [0] ∧
    (allocate C06UnplacedEx.mU Logs.empty .tslack l).placed 0 = Option.none ∧
    Place.passMoves C06UnplacedEx.mU Logs.empty .tslack l = [] ∧
    placeOk C06UnplacedEx.mU (allocate C06UnplacedEx.mU Logs.empty .tslack l) 0 0 0 = true := by
  decide +kernel

end PDesy

#print axioms PDesy.C06_unplaced_turn
#print axioms PDesy.C06_unplaced
#print axioms PDesy.C06_unplaced_obs
#print axioms PDesy.C06_unplaced_step
#print axioms PDesy.C06_unplaced_step_obs
#print axioms PDesy.C06_unplaced_run
