/-
  PDesy.Props.C15General — C15 ("a run paused at any step and resumed gives exactly the
  uninterrupted result") for EVERY model with an acyclic link graph: any mixture of FS/SS/FF/SF
  links, tasks with a finish gate and a finish-to-start successor included, any start state,
  any parameters.  (`PDesy.Props.C15` proves it under `GateOK`: no task has both an FF/SF
  predecessor and an FS successor.)

  Why it holds (details in `PDesy.Lemmas.PertIdem`).  The only stale values `update_PERT_data` can
  read are the old `eft i` of non-head tasks `i`, read by an FF relaxation `i → j` while no
  relaxation into `i` has been accepted yet (e.g. because the FS predecessor of `i` has overshot
  behind a closed finish gate, so that it proposes an `est` below `time`; see `staleM` below: the
  result of `pert` does depend on the old `eft`).  On an acyclic graph a stale read is always
  overwritten, so a second computation — whose "old" `eft` differ from the first one's only at
  tasks that are written — ends with the same table.

  What remains open: models whose link graph has a CYCLE and a task with both a finish gate and
  an FS successor (outside `C15_general_or_gateOK`).  There `pert` is not idempotent on
  arbitrary states (`cycM` in `PDesy.Props.C15`: the fuel runs out between a stale read and its
  correction); whether it is on the states a run reaches is open: no counterexample is known
  (DESIGN.md II.4, C15 row).

  `RankedBy` and `TopoOK`, defined below, belong to the statement of this property: two decidable
  ways of saying that the link graph is acyclic (`FwdRanked`).

  The theorems instantiate `PertIdem.pert_idem_ranked`, `pert_idem_acyclic`, `pertFwd_congr`
  (Lemmas/PertIdem), the run theorems through `C15_of_pert_idem` (Props/C15).
-/
import PDesy.Props.C15
import PDesy.Lemmas.PertIdem

namespace PDesy

open Idem PertIdem

/-- `rk` is a rank below `m.nT` that increases strictly along every output link, and output
links stay inside the task list (decidable; `FwdRanked m` says that some `rk` does).  This is
`Wave.Ranked m.nT (Wave.outs m) (·.1) rk` unfolded. -/
def RankedBy (m : Model) (rk : Nat → Nat) : Prop :=
  ∀ t, t < m.nT → rk t < m.nT ∧ ∀ e ∈ (m.task t).outputs, e.1 < m.nT ∧ rk t < rk e.1

instance (m : Model) (rk : Nat → Nat) : Decidable (RankedBy m rk) := by
  unfold RankedBy; infer_instance

/-- every link goes forward in the task list (the list is topologically sorted) -/
def TopoOK (m : Model) : Prop :=
  ∀ t, t < m.nT → ∀ e ∈ (m.task t).outputs, t < e.1 ∧ e.1 < m.nT

instance (m : Model) : Decidable (TopoOK m) := by unfold TopoOK; infer_instance

theorem RankedBy.fwdRanked {m : Model} {rk : Nat → Nat} (h : RankedBy m rk) : FwdRanked m :=
  ⟨rk, h⟩

theorem TopoOK.fwdRanked {m : Model} (h : TopoOK m) : FwdRanked m :=
  ⟨id, fun t ht => ⟨ht, fun e he => ⟨(h t ht e he).2, (h t ht e he).1⟩⟩⟩

/-- **C15, PERT part, acyclic models.**  `update_PERT_data` recomputed on its own output gives
the same data, at EVERY state `l` (whatever the signs of the remaining work amounts and the old
PERT data), when links stay inside the task list and the link graph is acyclic. -/
theorem C15_pert_idem_general (m : Model) (hwf : WF m) (hr : FwdRanked m) (time : Nat) (l : Live) :
    pert m time (pert m time l) = pert m time l :=
  pert_idem_ranked m hwf hr time l

/-- **C15, update block, acyclic models.**  Applying `__update` to a state that `__update` has
just produced (at the same time) changes nothing — at every state. -/
theorem C15_update_idem_general (m : Model) (hwf : WF m) (hr : FwdRanked m) (time : Nat)
    (l : Live) : update m time (update m time l) = update m time l :=
  update_idem_of_pert m time l (pert_idem_ranked m hwf hr time _)

/-- **What the forward pass of `update_PERT_data` reads of the old PERT data** (acyclic model):
two states with the same remaining work, the same `est` outside the task list and the same
`eft` at every task that is neither a head (no input link) nor written by the pass at `l`
(`FwdWrites`: some relaxation into it is accepted) get the same `est` and `eft`. -/
theorem C15_pertFwd_reads (m : Model) (hr : FwdRanked m) (l l' : Live) (time : Rat)
    (hrem : l'.rem = l.rem) (hest : ∀ t, ¬ t < m.nT → l'.est t = l.est t)
    (heft : ∀ j, ¬ (j < m.nT ∧ (m.task j).inputs.isEmpty = true) → ¬ FwdWrites m l time j →
      l'.eft j = l.eft j) :
    (pertFwd m time l').est = (pertFwd m time l).est ∧
    (pertFwd m time l').eft = (pertFwd m time l).eft :=
  pertFwd_congr m hr l l' time hrem hest heft

/-- **C15 for every acyclic model.**  A run paused at any step `k ≤ M` and resumed with
`initState = initLog = false` ends in exactly the state of the uninterrupted run to `M` — same
logs, costs, time, status, live data — for every `k`, including `0` and values beyond the
makespan, for ANY start state `s` and parameters `p` (priority rule, absence steps, automatic
tasks, with or without initialisation).

Hypotheses, on the model only: links stay inside the task list (`WF`), and some rank below
`m.nT` increases strictly along every output link (`FwdRanked`: the link graph is acyclic).
Link kinds are arbitrary: a task may have an FF/SF predecessor and an FS successor. -/
theorem C15_general (m : Model) (p : Params) (s : St) (k M : Nat) (hk : k ≤ M)
    (hwf : WF m) (hr : FwdRanked m) :
    simulate m { p with maxTime := M, initState := false, initLog := false }
        (simulate m { p with maxTime := k } s)
      = simulate m { p with maxTime := M } s :=
  C15_of_pert_idem m p s k M hk (fun time l => pert_idem_ranked m hwf hr time l)

/-- **C15 for consistent, acyclic link lists** (`GraphOK`: indices in range and
`(p, d) ∈ inputs t ↔ (t, d) ∈ outputs p`; `Acyclic`: some rank increases along every input
link) — the hypotheses under which C12 characterises the PERT data, minus "FS only". -/
theorem C15_general_acyclic (m : Model) (p : Params) (s : St) (k M : Nat) (hk : k ≤ M)
    (hok : PertSpec.GraphOK m) (hac : PertSpec.Acyclic m) :
    simulate m { p with maxTime := M, initState := false, initLog := false }
        (simulate m { p with maxTime := k } s)
      = simulate m { p with maxTime := M } s :=
  C15_of_pert_idem m p s k M hk (fun time l => pert_idem_acyclic m hok hac time l)

/-- **C15 for topologically sorted task lists**: every link goes forward in the list. -/
theorem C15_general_topo (m : Model) (p : Params) (s : St) (k M : Nat) (hk : k ≤ M)
    (hwf : WF m) (ht : TopoOK m) :
    simulate m { p with maxTime := M, initState := false, initLog := false }
        (simulate m { p with maxTime := k } s)
      = simulate m { p with maxTime := M } s :=
  C15_general m p s k M hk hwf ht.fwdRanked

/-- **C15, acyclic models or `C15_partial`'s models**: the link graph is acyclic, or (cycles
allowed) no task has both an FF/SF predecessor and an FS successor and the run starts from
non-negative remaining work.  Strictly more general than `C15_partial`. -/
theorem C15_general_or_gateOK (m : Model) (p : Params) (s : St) (k M : Nat) (hk : k ≤ M)
    (hwf : WF m)
    (h : FwdRanked m ∨
      (GateOK m ∧ ((p.initState = true ∧ WorkOK m) ∨ (p.initState = false ∧ RemOK m s.live)))) :
    simulate m { p with maxTime := M, initState := false, initLog := false }
        (simulate m { p with maxTime := k } s)
      = simulate m { p with maxTime := M } s := by
  rcases h with hr | ⟨hng, hstart⟩
  · exact C15_general m p s k M hk hwf hr
  · exact C15_partial m p s k M hk hwf hng hstart

section corollaries
variable (m : Model) (p : Params) (s : St) (k M : Nat) (hk : k ≤ M) (hwf : WF m)
  (hr : FwdRanked m)
include hk hwf hr

/-- same logs (task/worker/facility/component states, allocations, all cost lists) -/
theorem C15_general_logs :
    (simulate m { p with maxTime := M, initState := false, initLog := false }
        (simulate m { p with maxTime := k } s)).logs
      = (simulate m { p with maxTime := M } s).logs :=
  congrArg St.logs (C15_general m p s k M hk hwf hr)

/-- same project cost list in particular -/
theorem C15_general_cost :
    (simulate m { p with maxTime := M, initState := false, initLog := false }
        (simulate m { p with maxTime := k } s)).logs.projCost
      = (simulate m { p with maxTime := M } s).logs.projCost :=
  congrArg (fun x => x.logs.projCost) (C15_general m p s k M hk hwf hr)

/-- same final time and status -/
theorem C15_general_time_status :
    (simulate m { p with maxTime := M, initState := false, initLog := false }
        (simulate m { p with maxTime := k } s)).time
      = (simulate m { p with maxTime := M } s).time ∧
    (simulate m { p with maxTime := M, initState := false, initLog := false }
        (simulate m { p with maxTime := k } s)).status
      = (simulate m { p with maxTime := M } s).status :=
  ⟨congrArg St.time (C15_general m p s k M hk hwf hr),
   congrArg St.status (C15_general m p s k M hk hwf hr)⟩

/-- same live state -/
theorem C15_general_live :
    (simulate m { p with maxTime := M, initState := false, initLog := false }
        (simulate m { p with maxTime := k } s)).live
      = (simulate m { p with maxTime := M } s).live :=
  congrArg St.live (C15_general m p s k M hk hwf hr)

end corollaries

namespace C15GenEx

open C15Ex

/-- The same shape as `C15Ex.ffM` with the task list in REVERSE topological order (every link
goes backward in the list): task 3 (work 3) must finish before task 2 (work 1/2) may (FF), so
task 2 overshoots behind the closed gate; task 1 follows task 2 (FS); task 0 follows task 1
(FF) and task 3 (SF). -/
def revM : Model where
  nT := 4
  nW := 3
  nF := 0
  nTeam := 1
  nWp := 0
  nC := 0
  task := fun t =>
    match t with
    | 0 => { name := 0, work := 3/2, inputs := [(1, .ff), (3, .sf)] }
    | 1 => { name := 1, work := 1, inputs := [(2, .fs)], outputs := [(0, .ff)] }
    | 2 => { name := 2, work := 1/2, inputs := [(3, .ff)], outputs := [(1, .fs)] }
    | _ => { name := 3, work := 3, outputs := [(2, .ff), (0, .sf)] }
  worker := fun w =>
    match w with
    | 0 => { team := 0, skills := [(3, 1), (1, 1)], cost := 2 }
    | 1 => { team := 0, skills := [(2, 1)], cost := 3 }
    | _ => { team := 0, skills := [(0, 1)], cost := 1 }
  fac := fun _ => {}
  team := fun _ => { workers := [0, 1, 2], targets := [0, 1, 2, 3] }
  wp := fun _ => {}
  comp := fun _ => {}

/-- A chain `0 →FS 1 →FF 2` on which the result of `pert` DOES depend on the old `eft`: with
`rem 0 < 0` the relaxation `0 → 1` proposes an `est` below `time` and is rejected, `eft 1` is
never written, and the FF relaxation `1 → 2` reads it. -/
def staleM : Model where
  nT := 3
  nW := 0
  nF := 0
  nTeam := 0
  nWp := 0
  nC := 0
  task := fun t =>
    match t with
    | 0 => { name := 0, outputs := [(1, .fs)] }
    | 1 => { name := 1, inputs := [(0, .fs)], outputs := [(2, .ff)] }
    | _ => { name := 2, inputs := [(1, .ff)] }
  worker := fun _ => {}
  fac := fun _ => {}
  team := fun _ => {}
  wp := fun _ => {}
  comp := fun _ => {}

/-- a state of `staleM`: task 0 has overshot by 1, task 1 carries the old `eft` value `e` -/
def staleL (e : Rat) : Live :=
  { Live.empty with
    rem := fun t => match t with | 0 => -1 | 1 => 2 | _ => 1
    eft := fun t => match t with | 1 => e | _ => 0 }

theorem ffM_wf : WF ffM := by decide +kernel
theorem ffM_topo : TopoOK ffM := by decide +kernel
theorem revM_wf : WF revM := by decide +kernel
theorem revM_ranked : RankedBy revM (fun t => 3 - t) := by decide +kernel
theorem staleM_wf : WF staleM := by decide +kernel
theorem staleM_topo : TopoOK staleM := by decide +kernel

/-- `ffM` is outside `C15_partial`: task 1 has an FF predecessor and an FS successor -/
theorem ffM_not_gateOK : ¬ GateOK ffM := by decide +kernel

/-- so is `revM` (task 2) -/
theorem revM_not_gateOK : ¬ GateOK revM := by decide +kernel

/-- `revM` is not topologically sorted; the link lists of `revM` and of `ffM` are consistent -/
example : ¬ TopoOK revM := by decide +kernel
example : PertSpec.GraphOK revM := by decide +kernel
example : PertSpec.GraphOK ffM := by decide +kernel

end C15GenEx

open C15Ex C15GenEx

/-- the hypotheses of `C15_general` are satisfiable by a model OUTSIDE `GateOK`: `ffM` (a task
that overshoots behind a closed FF gate and has an FS successor), for every pause point `k`,
horizon `M ≥ k`, parameters and start state -/
example (p : Params) (s : St) (k M : Nat) (hk : k ≤ M) :
    simulate ffM { p with maxTime := M, initState := false, initLog := false }
        (simulate ffM { p with maxTime := k } s)
      = simulate ffM { p with maxTime := M } s :=
  C15_general_topo ffM p s k M hk ffM_wf ffM_topo

/-- … and by `revM`, whose task list is in reverse topological order (explicit rank `3 - t`) -/
example (p : Params) (s : St) (k M : Nat) (hk : k ≤ M) :
    simulate revM { p with maxTime := M, initState := false, initLog := false }
        (simulate revM { p with maxTime := k } s)
      = simulate revM { p with maxTime := M } s :=
  C15_general revM p s k M hk revM_wf revM_ranked.fwdRanked

/-- in the terms of the serialised states, `ffM` paused at every `k = 0 … makespan + 1` (step 2 is
an absence step; instances of `C15_general_topo`: this model is outside `C15_partial`) -/
example : ∀ k ∈ List.range 7,
    resumed ffM { absence := [2] } k 20 = straight ffM { absence := [2] } 20 :=
  fun k hk => congrArg (putSt ffM) (C15_general_topo ffM { absence := [2] } St.fresh k 20
    (by have := List.mem_range.1 hk; omega) ffM_wf ffM_topo)

/-- `revM` really overshoots behind the closed finish gate, and its run is not trivial -/
example : (simulate revM { maxTime := 20 } St.fresh).logs.tRem 2 = [-1/2, -3/2, -5/2, 0] ∧
    (simulate revM { maxTime := 20 } St.fresh).time = 4 ∧
    (simulate revM { maxTime := 20 } St.fresh).status = .success := by
  simp only [Fast.simulate_fast]; decide +kernel

/-- in the terms of the serialised states, `revM` paused at every `k = 0 … makespan + 1` (step 2 is
an absence step; instances of `C15_general`) -/
example : ∀ k ∈ List.range 6,
    resumed revM { absence := [2] } k 20 = straight revM { absence := [2] } 20 :=
  fun k hk => congrArg (putSt revM) (C15_general revM { absence := [2] } St.fresh k 20
    (by have := List.mem_range.1 hk; omega) revM_wf revM_ranked.fwdRanked)

/-- the stale read is real: on `staleM` the result of `update_PERT_data` depends on the old
`eft` of task 1 (which it never writes) … -/
example : (pert staleM 3 (staleL 10)).eft 2 = 10 ∧ (pert staleM 3 (staleL 0)).eft 2 = 4 ∧
    (pert staleM 3 (staleL 10)).eft 1 = 10 := by
  decide +kernel

/-- … task 1 is indeed not written by the forward pass there, task 2 is … -/
example : ¬ FwdWrites staleM (staleL 10) 3 1 ∧ FwdWrites staleM (staleL 10) 3 2 := by
  decide +kernel

/-- … and the recomputation is idempotent all the same (instance of the theorem) -/
example (e : Rat) :
    pert staleM 3 (pert staleM 3 (staleL e)) = pert staleM 3 (staleL e) :=
  C15_pert_idem_general staleM staleM_wf staleM_topo.fwdRanked 3 (staleL e)

/-- acyclicity cannot simply be dropped from `C15_pert_idem_general`: on the cyclic graph
`cycM` (in-range links) `update_PERT_data` is not idempotent at the state `cycL` -/
example : WF cycM ∧ pert cycM 3 (pert cycM 3 cycL) ≠ pert cycM 3 cycL := by
  refine ⟨by decide +kernel, fun h => absurd ?_ (by decide +kernel : (7/2 : Rat) ≠ 4)⟩
  exact cycM_eft.2.symm.trans ((congrArg (fun l => l.eft 3) h).trans cycM_eft.1)

end PDesy

#print axioms PDesy.C15_pert_idem_general
#print axioms PDesy.C15_update_idem_general
#print axioms PDesy.C15_pertFwd_reads
#print axioms PDesy.C15_general
#print axioms PDesy.C15_general_acyclic
#print axioms PDesy.C15_general_topo
#print axioms PDesy.C15_general_or_gateOK
#print axioms PDesy.C15_general_logs
#print axioms PDesy.C15_general_cost
#print axioms PDesy.C15_general_time_status
#print axioms PDesy.C15_general_live
