/-
  PDesy.Props.C09Det — C09: "Running a simulation leaves no hidden state behind that changes a
  later run; simulating again on an already simulated project gives exactly the same result."

  `simulate m p s` first runs `initialize(state_info, log_info)`.  With both flags on, every piece
  of the mutable state `St` is overwritten before it is read:
    * `initLive` resets every task / worker / facility / workplace field (at every index),
    * `cpl` is set to 0, PERT and the ready gate only read what was just reset,
    * `initComps` resets the component fields, `clearLogs` empties every log,
    * time, status, mode, the stored absence list and the auto-task flag are overwritten.
  Hence the state the loop starts from (`enter m p s`) — and therefore the whole result — is the
  same for every incoming state `s`.  The equalities below are equalities of whole states
  (`St` holds functions: they are equal at EVERY index, not only inside the model's ranges).

  The theorems instantiate `Lifecycle.enter_eq` and `Lifecycle.initProject_live_indep`.
-/
import PDesy.Lemmas.Lifecycle
import PDesy.Lemmas.Logs
import PDesy.Lemmas.Fast
import PDesy.Model.Ser

namespace PDesy

/-- **C09 (entry)** With `initialize_state_info = initialize_log_info = True`, the state from which
`simulate` starts its loop is the same whatever the project looked like before: nothing of the old
live state, the old logs, the old clock, status, mode, stored absence list or auto-task flag survives
`initialize`.  (Equality of whole states, at every index.) -/
theorem C09_enter_indep (m : Model) (p : Params) (s s' : St)
    (hs : p.initState = true) (hl : p.initLog = true) : enter m p s = enter m p s' := by
  rw [Lifecycle.enter_eq m hs hl s, Lifecycle.enter_eq m hs hl s',
    Lifecycle.initProject_live_indep m true s' s]

/-- **C09** With `initialize_state_info = initialize_log_info = True`, `simulate` returns exactly the same
project state from any two incoming states: no hidden state of the project influences the run. -/
theorem C09_resim (m : Model) (p : Params) (s s' : St)
    (hs : p.initState = true) (hl : p.initLog = true) : simulate m p s = simulate m p s' := by
  rw [simulate_eq, simulate_eq, C09_enter_indep m p s s' hs hl]

/-- **C09** Simulating again on the project a simulation has just returned gives exactly the
same result as the first time. -/
theorem C09_resim_twice (m : Model) (p : Params) (s : St)
    (hs : p.initState = true) (hl : p.initLog = true) :
    simulate m p (simulate m p s) = simulate m p s :=
  C09_resim m p _ _ hs hl

/-- **C09** … also when the earlier run used other parameters `q` (another rule, another absence
list, no re-initialisation, another time limit, …). -/
theorem C09_resim_after (m : Model) (p q : Params) (s : St)
    (hs : p.initState = true) (hl : p.initLog = true) :
    simulate m p (simulate m q s) = simulate m p s :=
  C09_resim m p _ _ hs hl

/-- **C09** Whatever sequence of operations `ops` (earlier simulations, log edits, backward runs,
arbitrary tampering with the state — any functions `St → St`) was applied to the project before,
the run gives the same result as if they had never happened. -/
theorem C09_history_indep (m : Model) (p : Params) (s : St) (ops : List (St → St))
    (hs : p.initState = true) (hl : p.initLog = true) :
    simulate m p (ops.foldl (fun st f => f st) s) = simulate m p s :=
  C09_resim m p _ _ hs hl

/-- **C09** The result of a simulation is a function of the static model and the parameters
only: it is the result obtained on a freshly constructed project. -/
theorem C09_function (m : Model) (p : Params)
    (hs : p.initState = true) (hl : p.initLog = true) :
    ∀ s, simulate m p s = simulate m p St.fresh :=
  fun s => C09_resim m p s St.fresh hs hl

namespace C09Ex

/-- the demo model of Lemmas/Logs.lean: two tasks in sequence (the second needs a facility), two
workers in one team, one component placed in one workplace with one facility -/
def mD : Model := Logs.demo

/-- the parameters of the demo run, `Logs.demoP` -/
def pD : Params := { absence := [1], maxTime := 20 }

/-- a dirty project: everything FINISHED, junk allocations (also at the out-of-range index 7),
junk logs, a late clock, a stale status / mode / absence list -/
def dirty1 : St :=
  { live := { Live.empty with
      tstate := fun _ => .finished
      rem := fun _ => 5
      est := fun _ => 9, lft := fun _ => 4
      cpl := 33
      allocW := fun t => if t = 7 then [0] else [1]
      wasg := fun _ => [0, 1]
      wstate := fun _ => .working
      fstate := fun _ => .absence
      cstate := fun _ => .finished
      placed := fun _ => some 0
      wpComps := fun _ => [0, 0] }
    logs := { Logs.empty with
      tState := fun _ => [.working, .working]
      projCost := [1, 2, 3]
      cPlaced := fun _ => [some 0] }
    time := 17
    status := .failure
    mode := .backward
    absence := [0, 1, 2]
    autoFlag := true }

/-- another dirty project: the result of an earlier run with other parameters, then edited -/
def dirty2 : St :=
  { simulate mD { rule := .tslack, absence := [0, 2], maxTime := 3 } St.fresh with
    time := 2, autoFlag := true }

/-- the hypotheses of the C09 theorems hold for the demo parameters -/
example : pD.initState = true ∧ pD.initLog = true := ⟨rfl, rfl⟩

/-- the two dirty projects really differ from each other and from a fresh one … -/
example : putSt mD dirty1 ≠ putSt mD dirty2 ∧ putSt mD dirty1 ≠ putSt mD St.fresh ∧
    putSt mD dirty2 ≠ putSt mD St.fresh := by decide +kernel

/-- … and yet the run gives the same (serialised) result from all three (`C09_resim`,
`C09_resim_twice`); it is a real run (evaluated): four steps (one of them an absence step),
SUCCESS, both tasks FINISHED, total cost 18 -/
example :
    putSt mD (simulate mD pD dirty1) = putSt mD (simulate mD pD St.fresh) ∧
    putSt mD (simulate mD pD dirty2) = putSt mD (simulate mD pD St.fresh) ∧
    putSt mD (simulate mD pD (simulate mD pD dirty1)) = putSt mD (simulate mD pD dirty1) ∧
    (simulate mD pD dirty1).time = 4 ∧ (simulate mD pD dirty1).status = .success ∧
    (simulate mD pD dirty1).live.tstate 0 = .finished ∧
    (simulate mD pD dirty1).live.tstate 1 = .finished ∧
    (simulate mD pD dirty1).logs.projCost = [3, 0, 3, 12] :=
  ⟨congrArg (putSt mD) (C09_resim mD pD _ _ rfl rfl), congrArg (putSt mD) (C09_resim mD pD _ _ rfl rfl),
    congrArg (putSt mD) (C09_resim_twice mD pD _ rfl rfl), by
      -- from a fresh project it is the demo run of Logs.lean
      rw [C09_resim mD pD dirty1 St.fresh rfl rfl]
      exact ⟨Logs.demo_run.1, Logs.demo_run.2.1, Logs.demo_states.2.2.2.2.2.1,
        Logs.demo_states.2.2.2.2.2.2, Logs.demo_run.2.2.2.1⟩⟩

/-- the two flags are needed: without re-initialising the state (or the logs) the old project
shows through in the result -/
example :
    putSt mD (simulate mD { pD with initState := false } dirty1) ≠
      putSt mD (simulate mD { pD with initState := false } St.fresh) ∧
    putSt mD (simulate mD { pD with initLog := false } dirty1) ≠
      putSt mD (simulate mD { pD with initLog := false } St.fresh) := by
  simp only [Fast.simulate_fast]; decide +kernel

end C09Ex

end PDesy

#print axioms PDesy.C09_enter_indep
#print axioms PDesy.C09_resim
#print axioms PDesy.C09_resim_twice
#print axioms PDesy.C09_resim_after
#print axioms PDesy.C09_history_indep
#print axioms PDesy.C09_function
