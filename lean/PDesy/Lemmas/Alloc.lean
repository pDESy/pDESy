/-
  PDesy.Lemmas.Alloc — the three invariants of C03 through the phases of the loop, and `InRange`.

  `AllocInv` (exclusive, two-way consistent) is kept by every phase, by `allocate` given that FREE
  workers hold nothing (`FreeIdle`); its worker side and its facility side are one structure,
  `TwoWay`.  `HoldWorking` is broken by `allocate` and repaired by `check_state(WORKING)`, which also
  makes `ResInv` hold again for what the pass has handed out.  `InRange` is an invariant on its own,
  the facility half under `FacsInRange`; with `AllocInv` it gives `OutClean`.
-/
import PDesy.Lemmas.Lifecycle

namespace PDesy

/-- One side (workers, or facilities) of `AllocInv`: `alloc` maps a task to the resources it
holds, `asg` a resource to the tasks it is assigned to. -/
structure TwoWay (alloc asg : Nat → List Nat) : Prop where
  two : ∀ t r, r ∈ alloc t ↔ t ∈ asg r
  excl : ∀ r, (asg r).length ≤ 1
  nodup : ∀ t, (alloc t).Nodup

theorem AllocInv.W {m : Model} {l : Live} (h : AllocInv m l) : TwoWay l.allocW l.wasg :=
  ⟨h.w_two, h.w_excl, h.w_nodup⟩

theorem AllocInv.F {m : Model} {l : Live} (h : AllocInv m l) : TwoWay l.allocF l.fasg :=
  ⟨h.f_two, h.f_excl, h.f_nodup⟩

theorem AllocInv.of_sides {m : Model} {l : Live} (hW : TwoWay l.allocW l.wasg)
    (hF : TwoWay l.allocF l.fasg) (hfac : ∀ t, l.allocF t ≠ [] → (m.task t).needFac = true)
    (hold : ∀ t, (l.allocW t ≠ [] ∨ l.allocF t ≠ []) → l.tstate t = .ready ∨ l.tstate t = .working) :
    AllocInv m l :=
  ⟨hW.two, hF.two, hW.excl, hF.excl, hW.nodup, hF.nodup, hfac, hold⟩

namespace TwoWay
variable {alloc asg : Nat → List Nat}

theorem asg_eq (h : TwoWay alloc asg) {t r : Nat} (hr : r ∈ alloc t) : asg r = [t] :=
  eq_singleton_of_mem_of_length_le_one ((h.two t r).mp hr) (h.excl r)

theorem give (h : TwoWay alloc asg) {r : Nat} (hr : asg r = []) (t : Nat) :
    TwoWay (upd alloc t (alloc t ++ [r])) (upd asg r (asg r ++ [t])) := by
  refine ⟨fun t' r' => ?_, fun r' => ?_, fun t' => ?_⟩
  · rw [mem_upd_append, mem_upd_append, h.two, and_comm]
  · rw [upd_apply]; split
    · rw [hr]; exact Nat.le_refl 1
    · exact h.excl r'
  · rw [upd_apply]; split
    · -- `r` is assigned to nobody, so `t` does not hold it yet
      have hnot : r ∉ alloc t := fun hm => by have := (h.two t r).mp hm; rw [hr] at this; cases this
      exact (List.perm_append_singleton r _).nodup_iff.mpr (List.nodup_cons.mpr ⟨hnot, h.nodup t⟩)
    · exact h.nodup t'

theorem release (h : TwoWay alloc asg) (t : Nat) :
    TwoWay (upd alloc t []) (fun r => if r ∈ alloc t then [] else asg r) := by
  refine ⟨fun t' r => ?_, fun r => ?_, fun t' => ?_⟩
  · simp only [upd_apply]
    by_cases hr : r ∈ alloc t
    · by_cases ht : t' = t
      · simp [ht, hr]
      · simp [ht, hr, h.two, h.asg_eq hr]
    · by_cases ht : t' = t
      · subst ht; simp [hr, ← h.two]
      · simp [ht, hr, h.two]
  · show (if r ∈ alloc t then [] else asg r).length ≤ 1
    split
    · simp
    · exact h.excl r
  · simp only [upd_apply]; split
    · simp
    · exact h.nodup t'

theorem asg_cases {alloc0 asg0 : Nat → List Nat} (h0 : TwoWay alloc0 asg0) (h : TwoWay alloc asg)
    (hnil : ∀ r, asg r = [] → asg0 r = []) (r : Nat) :
    asg r = asg0 r ∨ ∃ t, asg r = [t] ∧ r ∈ alloc t ∧ r ∉ alloc0 t := by
  cases hl : asg r with
  | nil => exact Or.inl (hnil r hl).symm
  | cons t rest =>
    have hm : r ∈ alloc t := (h.two t r).mpr (by rw [hl]; exact List.mem_cons_self)
    rw [← hl, h.asg_eq hm]
    by_cases h' : r ∈ alloc0 t
    · exact Or.inl (h0.asg_eq h').symm
    · exact Or.inr ⟨t, rfl, hm, h'⟩

theorem asg_nil_of_sub {alloc0 asg0 : Nat → List Nat} (h0 : TwoWay alloc0 asg0) (h : TwoWay alloc asg)
    {t r : Nat} (hr : r ∈ alloc0 t) (hsub : ∀ t', t' ∈ asg r → t' ∈ asg0 r) (hnil : alloc t = []) :
    asg r = [] := by
  refine List.eq_nil_iff_forall_not_mem.mpr fun t' ht' => ?_
  have e := hsub t' ht'
  rw [h0.asg_eq hr, List.mem_singleton] at e
  have hm := (h.two t' r).mpr ht'
  rw [e, hnil] at hm; cases hm

end TwoWay

/-! ### what the invariants read, and the phases that write none of it -/

theorem AllocInv.congr {m : Model} {l l' : Live} (h : AllocInv m l)
    (hW : l'.allocW = l.allocW) (hF : l'.allocF = l.allocF)
    (hwa : l'.wasg = l.wasg) (hfa : l'.fasg = l.fasg)
    (hts : ∀ t, (l.tstate t = .ready ∨ l.tstate t = .working) →
      (l'.tstate t = .ready ∨ l'.tstate t = .working)) : AllocInv m l' :=
  .of_sides (hW ▸ hwa ▸ h.W) (hF ▸ hfa ▸ h.F) (hF ▸ h.fac_only)
    fun t ht => hts t (h.holder t (hW ▸ hF ▸ ht))

theorem HoldWorking.congr {l l' : Live} (h : HoldWorking l)
    (hW : l'.allocW = l.allocW) (hF : l'.allocF = l.allocF)
    (hts : ∀ t, l.tstate t = .working → l'.tstate t = .working) : HoldWorking l' := by
  intro t ht
  rw [hW, hF] at ht
  exact hts t (h t ht)

theorem ResInv.congr {m : Model} {time : Nat} {wk : Bool} {l l' : Live} (h : ResInv m time wk l)
    (hws : l'.wstate = l.wstate) (hfs : l'.fstate = l.fstate)
    (hwa : l'.wasg = l.wasg) (hfa : l'.fasg = l.fasg) : ResInv m time wk l' := by
  unfold ResInv; rw [hws, hfs, hwa, hfa]; exact h

theorem AllocInv_absenceSet {m : Model} {time : Nat} {wk : Bool} {l : Live} (h : AllocInv m l) :
    AllocInv m (absenceSet m time wk l) := by
  rw [absenceSet_eq]; exact h.congr rfl rfl rfl rfl (fun _ h => h)

theorem HoldWorking_absenceSet {m : Model} {time : Nat} {wk : Bool} {l : Live} (h : HoldWorking l) :
    HoldWorking (absenceSet m time wk l) := by
  rw [absenceSet_eq]; exact h.congr rfl rfl (fun _ h => h)

theorem ResInv_absenceSet (m : Model) (time : Nat) (wk : Bool) (l : Live) :
    ResInv m time wk (absenceSet m time wk l) := by
  rw [absenceSet_eq]
  exact ⟨fun w hw => if_pos hw, fun f hf => if_pos hf⟩

/-! ### what `ResInv` says: on a working step a state is read off the assignment list and the absence
list, on a project absence step everybody is ABSENCE -/

theorem resState_iff (a : Bool) (asg : List Nat) :
    (resState a asg = .working ↔ asg ≠ [] ∧ a = false) ∧ (resState a asg = .absence ↔ a = true) ∧
    (resState a asg = .free ↔ asg = [] ∧ a = false) := by
  unfold resState
  cases a <;> cases asg <;> simp

/-- a resource FREE after the pass was FREE before it: the pass only assigns -/
theorem resState_free_before {a : Bool} {asg asg0 : List Nat} (h : resState a asg = .free)
    (h0 : asg = [] → asg0 = []) : resState a asg0 = .free ∧ asg = [] := by
  obtain ⟨e, ha⟩ := (resState_iff a asg).2.2.mp h
  rw [ha, h0 e]
  exact ⟨rfl, e⟩

theorem ResInv.iff_on {m : Model} {k : Nat} {l : Live} (h : ResInv m k true l) :
    (∀ w, w < m.nW →
      (l.wstate w = .working ↔ l.wasg w ≠ [] ∧ (m.worker w).absence.contains k = false) ∧
      (l.wstate w = .absence ↔ (m.worker w).absence.contains k = true) ∧
      (l.wstate w = .free ↔ l.wasg w = [] ∧ (m.worker w).absence.contains k = false)) ∧
    (∀ f, f < m.nF →
      (l.fstate f = .working ↔ l.fasg f ≠ [] ∧ (m.fac f).absence.contains k = false) ∧
      (l.fstate f = .absence ↔ (m.fac f).absence.contains k = true) ∧
      (l.fstate f = .free ↔ l.fasg f = [] ∧ (m.fac f).absence.contains k = false)) :=
  ⟨fun w hw => by rw [(h.1 w hw).trans (if_pos rfl)]; exact resState_iff _ _,
    fun f hf => by rw [(h.2 f hf).trans (if_pos rfl)]; exact resState_iff _ _⟩

/-- FREE workers hold nothing; inside the loop a consequence of `ResInv … true`
(`ResInv.freeIdle`) -/
def FreeIdle (m : Model) (l : Live) : Prop := ∀ w, w < m.nW → l.wstate w = .free → l.wasg w = []

theorem ResInv.freeIdle {m : Model} {time : Nat} {l : Live} (h : ResInv m time true l) :
    FreeIdle m l :=
  fun w hw hf => ((h.iff_on.1 w hw).2.2.mp hf).1

theorem ResInv.absent {m : Model} {time : Nat} {l : Live} (h : ResInv m time true l) :
    (∀ w, w < m.nW → (m.worker w).absence.contains time = true → l.wstate w = .absence) ∧
    (∀ f, f < m.nF → (m.fac f).absence.contains time = true → l.fstate f = .absence) :=
  ⟨fun w hw => (h.iff_on.1 w hw).2.1.mpr, fun f hf => (h.iff_on.2 f hf).2.1.mpr⟩

theorem ResInv.off {m : Model} {time : Nat} {l : Live} (h : ResInv m time false l) :
    (∀ w, w < m.nW → l.wstate w = .absence) ∧ (∀ f, f < m.nF → l.fstate f = .absence) :=
  ⟨fun w hw => h.1 w hw, fun f hf => h.2 f hf⟩

/-! ### `check_state(FINISHED)` hands back, on both sides, exactly what the finished tasks hold -/

theorem ite_mem_cons_upd {α : Type} (g : Nat → α) (r : Nat) (rs : List Nat) (v : α) :
    (fun x => if x ∈ rs then v else upd g r v x) = fun x => if x ∈ r :: rs then v else g x := by
  funext x
  by_cases e : x = r
  · rw [e, upd_same, ite_self, if_pos List.mem_cons_self]
  · rw [upd_other _ _ _ _ e]; simp only [List.mem_cons, e, false_or]

/-- Handing back, on one side of the allocation (`st` and `asg` read, `set` writes its resource
states and assignment lists), distinct resources each of which is assigned to `t` alone: `rel`
frees such a resource and empties its list (in a state with `Q`, which `set` keeps). -/
theorem foldl_release {rel : Live → Nat → Live} {st : Live → Nat → RS}
    {asg : Live → Nat → List Nat} {set : Live → (Nat → RS) → (Nat → List Nat) → Live} {t : Nat}
    {Q : Live → Prop} (hQ : ∀ l a b, Q l → Q (set l a b))
    (hst : ∀ l a b, st (set l a b) = a) (hasg : ∀ l a b, asg (set l a b) = b)
    (hset : ∀ l a b a' b', set (set l a b) a' b' = set l a' b') (hid : ∀ l, set l (st l) (asg l) = l)
    (hrel : ∀ l r, Q l → asg l r = [t] →
      rel l r = set l (upd (st l) r .free) (upd (asg l) r [])) :
    ∀ (rs : List Nat) (l : Live), Q l → rs.Nodup → (∀ r ∈ rs, asg l r = [t]) →
      rs.foldl rel l = set l (fun r => if r ∈ rs then .free else st l r)
        (fun r => if r ∈ rs then [] else asg l r) := by
  intro rs
  induction rs with
  | nil => intro l _ _ _; simp only [List.foldl_nil, List.not_mem_nil, if_false]; exact (hid l).symm
  | cons r rs ih =>
    intro l hl hnd h
    obtain ⟨hnr, hnd'⟩ := List.nodup_cons.mp hnd
    rw [List.foldl_cons, hrel l r hl (h r List.mem_cons_self), ih _ (hQ _ _ _ hl) hnd', hset, hst,
      hasg, ite_mem_cons_upd, ite_mem_cons_upd]
    intro x hx
    rw [hasg, upd_other _ _ _ _ (fun e => hnr (by rw [← e]; exact hx))]
    exact h x (List.mem_cons_of_mem _ hx)

/-- `finishOne_eq` with the four resource fields in closed form -/
theorem AllocInv.finishOne_eq {m : Model} {l : Live} (h : AllocInv m l) (t : Nat) :
    finishOne m l t =
      { l with tstate := upd l.tstate t .finished, rem := upd l.rem t 0,
               allocW := upd l.allocW t [], allocF := upd l.allocF t [],
               wstate := fun w => if w ∈ l.allocW t then .free else l.wstate w,
               wasg := fun w => if w ∈ l.allocW t then [] else l.wasg w,
               fstate := fun f => if f ∈ l.allocF t then .free else l.fstate f,
               fasg := fun f => if f ∈ l.allocF t then [] else l.fasg f } := by
  have hW := foldl_release (rel := releaseW t) (st := Live.wstate) (asg := Live.wasg)
    (set := fun l a b => { l with wstate := a, wasg := b }) (t := t)
    (Q := fun l => l.tstate t = .finished) (fun _ _ _ h => h)
    (fun _ _ _ => rfl) (fun _ _ _ => rfl) (fun _ _ _ _ _ => rfl) (fun _ => rfl)
    (fun l r hl hr => by
      unfold releaseW
      rw [if_pos (by rw [hr]; simp [hl]), hr, List.erase_cons_head])
  have hF := foldl_release (rel := releaseF t) (st := Live.fstate) (asg := Live.fasg)
    (set := fun l a b => { l with fstate := a, fasg := b }) (t := t)
    (Q := fun l => l.tstate t = .finished) (fun _ _ _ h => h)
    (fun _ _ _ => rfl) (fun _ _ _ => rfl) (fun _ _ _ _ _ => rfl) (fun _ => rfl)
    (fun l r hl hr => by
      unfold releaseF
      rw [if_pos (by rw [hr]; simp [hl]), hr, List.erase_cons_head])
  unfold finishOne
  extract_lets l1 l2 l3 l4
  have e2 : l2 = _ := hW _ l1 (upd_same _ _ _) (h.w_nodup t) (fun w hw => h.W.asg_eq hw)
  -- with `l2` replaced by its closed form, what `l3` holds is read off by unfolding
  clear_value l2
  subst e2
  by_cases hn : (m.task t).needFac = true
  · rw [if_pos hn, show l4 = _ from hF _ l3 (upd_same _ _ _) (h.f_nodup t) fun f hf => h.F.asg_eq hf]
  · have he : l.allocF t = [] := Classical.byContradiction fun he => hn (h.fac_only t he)
    rw [if_neg hn]
    simp only [l3, l1, he, List.not_mem_nil, if_false]
    rw [← he, upd_eq_self]

theorem AllocInv_finishOne {m : Model} {l : Live} (h : AllocInv m l) (t : Nat) :
    AllocInv m (finishOne m l t) := by
  rw [h.finishOne_eq]
  refine .of_sides (h.W.release t) (h.F.release t) (fun t' => ?_) (fun t' => ?_) <;>
    simp only [upd_apply] <;> by_cases ht : t' = t
  · simp [ht]
  · simp only [ht, if_false]; exact h.fac_only t'
  · simp [ht]
  · simp only [ht, if_false]; exact h.holder t'

theorem HoldWorking_finishOne {m : Model} {l : Live} (h : AllocInv m l) (hw : HoldWorking l) (t : Nat) :
    HoldWorking (finishOne m l t) := by
  rw [h.finishOne_eq]
  intro t'; simp only [upd_apply]
  by_cases ht : t' = t
  · simp [ht]
  · simp only [ht, if_false]; exact hw t'

theorem AllocInv_chkFinished {m : Model} {l : Live} (h : AllocInv m l) : AllocInv m (chkFinished m l) :=
  Finish.chkFinished_ind (AllocInv m) (fun _ t _ _ _ _ hl => AllocInv_finishOne hl t) l h

theorem HoldWorking_chkFinished {m : Model} {l : Live} (h : AllocInv m l) (hw : HoldWorking l) :
    HoldWorking (chkFinished m l) :=
  (Finish.chkFinished_ind (fun l => AllocInv m l ∧ HoldWorking l)
    (fun _ t _ _ _ _ hl => ⟨AllocInv_finishOne hl.1 t, HoldWorking_finishOne hl.1 hl.2 t⟩) l ⟨h, hw⟩).2

theorem chkFinished_alloc_sub (m : Model) (l : Live) :
    (∀ t w, w ∈ (chkFinished m l).allocW t → w ∈ l.allocW t) ∧
    (∀ t f, f ∈ (chkFinished m l).allocF t → f ∈ l.allocF t) := by
  refine Finish.chkFinished_ind (fun l' => (∀ t w, w ∈ l'.allocW t → w ∈ l.allocW t) ∧
    (∀ t f, f ∈ l'.allocF t → f ∈ l.allocF t)) ?_ l ⟨fun _ _ h => h, fun _ _ h => h⟩
  rintro l' t - - - - ⟨h1, h2⟩
  rw [finishOne_eq]
  refine ⟨fun t' w => ?_, fun t' f => ?_⟩
  · simp only [upd_apply]; split
    · simp
    · exact h1 t' w
  · dsimp only; split
    · simp only [upd_apply]; split
      · simp
      · exact h2 t' f
    · exact h2 t' f

theorem AllocInv.chkFinished_asg_sub {m : Model} {l : Live} (h : AllocInv m l) :
    (∀ w t, t ∈ (chkFinished m l).wasg w → t ∈ l.wasg w) ∧
    (∀ f t, t ∈ (chkFinished m l).fasg f → t ∈ l.fasg f) := by
  refine (Finish.chkFinished_ind (fun l' => AllocInv m l' ∧
    (∀ w t, t ∈ l'.wasg w → t ∈ l.wasg w) ∧ (∀ f t, t ∈ l'.fasg f → t ∈ l.fasg f))
    ?_ l ⟨h, fun _ _ h => h, fun _ _ h => h⟩).2
  rintro l' t - - - - ⟨hi, h1, h2⟩
  refine ⟨AllocInv_finishOne hi t, ?_⟩
  rw [hi.finishOne_eq]
  refine ⟨fun w t' => ?_, fun f t' => ?_⟩ <;> simp only <;> split
  · simp
  · exact h1 w t'
  · simp
  · exact h2 f t'

/-! ### `allocate` keeps `AllocInv` as long as FREE workers hold nothing -/

theorem AllocInv_giveW {m : Model} {l : Live} {t w : Nat} (h : AllocInv m l)
    (hw : l.wasg w = []) (hs : l.tstate t = .ready ∨ l.tstate t = .working) :
    AllocInv m (giveW l t w) := by
  refine .of_sides (h.W.give hw t) h.F h.fac_only fun t' => ?_
  simp only [giveW, upd_apply]
  by_cases ht : t' = t
  · subst ht; exact fun _ => hs
  · simp only [ht, if_false]; exact h.holder t'

theorem AllocInv_giveF {m : Model} {l : Live} {t f : Nat} (h : AllocInv m l)
    (hf : l.fasg f = []) (hs : l.tstate t = .ready ∨ l.tstate t = .working)
    (hn : (m.task t).needFac = true) :
    AllocInv m (giveF l t f) := by
  refine .of_sides h.W (h.F.give hf t) (fun t' => ?_) (fun t' => ?_) <;>
    simp only [giveF, upd_apply] <;> by_cases ht : t' = t
  · subst ht; exact fun _ => hn
  · simp only [ht, if_false]; exact h.fac_only t'
  · subst ht; exact fun _ => hs
  · simp only [ht, if_false]; exact h.holder t'

/-- `hfree` is carried along with the invariant: the workers of the free list hold nothing -/
theorem AllocInv.act {m : Model} {a a' : Alloc} {t : Nat} (h : AllocInv m a.l)
    (hfree : ∀ w ∈ a.free, a.l.wasg w = []) (hact : Act m t a a') :
    AllocInv m a'.l ∧ ∀ w ∈ a'.free, a'.l.wasg w = [] := by
  have hrest : ∀ w w', w' ∈ a.free.filter (· != w) → upd a.l.wasg w (a.l.wasg w ++ [t]) w' = [] :=
    fun w w' hw' => by
      simp only [List.mem_filter, bne_iff_ne, ne_eq] at hw'
      rw [upd_other _ _ _ _ hw'.2]; exact hfree w' hw'.1
  cases hact with
  | perm fr hp => exact ⟨h, fun w hw => hfree w (hp.mem_iff.mp hw)⟩
  | move c p =>
    have e := moveComp_frame a.l c p
    exact ⟨h.congr (by rw [e]) (by rw [e]) (by rw [e]) (by rw [e]) (by rw [e]; exact fun _ h => h),
      by rw [e]; exact hfree⟩
  | worker w _ _ hw _ _ hcan =>
    exact ⟨AllocInv_giveW h (hfree w hw) (canAdd_iff.mp hcan).1.state, hrest w⟩
  | pair w f c p _ hnf _ _ _ _ _ hw _ _ hcan =>
    have hr := (canAdd_iff.mp hcan).1
    exact ⟨AllocInv_giveF (AllocInv_giveW h (hfree w hw) hr.state) (hr.fasg f rfl) hr.state hnf,
      hrest w⟩

/-- `FreeIdle` is necessary (`allocate_AllocInv_counterexample` in `Props/C03.lean`): `allocate`
reads its free list off `wstate` and `can_add_resources` never looks at a worker's own
assignments, so a worker that is FREE although it holds a task is handed out a second time. -/
theorem allocate_AllocInv_partial {m : Model} (lg : Logs) (rule : TaskRule) {l : Live}
    (h : AllocInv m l) (hfree : FreeIdle m l) : AllocInv m (allocate m lg rule l) := by
  obtain ⟨b, hr, e⟩ := allocate_reach m lg rule l
  rw [e]
  exact (hr.inv (P := fun a => AllocInv m a.l ∧ ∀ w ∈ a.free, a.l.wasg w = [])
    (fun _ _ _ _ hact hb => hb.1.act hb.2 hact)
    ⟨h, fun w hw => hfree w (Elig.mem_freeOf.mp hw).1 (Elig.mem_freeOf.mp hw).2⟩).1

/-! ### `check_state(WORKING)` starts whoever holds a worker and sets what is held to WORKING -/

theorem chkWorking_working_of_target {m : Model} {l : Live} {t : Nat} (ht : t < m.nT)
    (htar : workingTarget m l t = true) (hs : l.tstate t = .ready ∨ l.tstate t = .working) :
    (chkWorking m l).tstate t = .working := by
  rw [chkWorking_tstate]
  rcases hs with hs | hs
  · exact if_pos ⟨ht, htar, hs⟩
  · rw [if_neg (by rw [hs]; simp), hs]

theorem startOne_wstate (m : Model) (l : Live) (t w : Nat) :
    (startOne m l t).wstate w =
      if w ∈ l.allocW t ∧ (l.tstate t = .ready ∨ (l.tstate t = .working ∧ l.wstate w = .free))
      then .working else l.wstate w := by
  rw [startOne_eq]

theorem startOne_fstate (m : Model) (l : Live) (t f : Nat) :
    (startOne m l t).fstate f =
      if (m.task t).needFac = true ∧ f ∈ l.allocF t ∧
         (l.tstate t = .ready ∨ (l.tstate t = .working ∧ l.allocW t ≠ [] ∧ l.fstate f = .free))
      then .working else l.fstate f := by
  rw [startOne_eq]

/-- One resource through `check_state(WORKING)`, a fold of `startOne` over distinct tasks.  `st`
reads its state; a step at `t` sets it to WORKING exactly when `C t` holds of the task's state and
the resource's state before the step (as long as `I`, which the steps keep, holds).  Then the
phase sets it to WORKING iff `C t` holds, in the state it starts from, for one of its targets. -/
theorem chkWorking_one (m : Model) (l : Live) (I : Live → Prop) (st : Live → RS)
    (C : Nat → TS → RS → Prop) (hl : I l) (hI : ∀ l t, I l → I (startOne m l t))
    (hyes : ∀ l t, I l → C t (l.tstate t) (st l) → st (startOne m l t) = .working)
    (hno : ∀ l t, I l → ¬ C t (l.tstate t) (st l) → st (startOne m l t) = st l) :
    ((∃ t, t < m.nT ∧ workingTarget m l t = true ∧ C t (l.tstate t) (st l)) →
      st (chkWorking m l) = .working) ∧
    ((∀ t, t < m.nT → workingTarget m l t = true → ¬ C t (l.tstate t) (st l)) →
      st (chkWorking m l) = st l) := by
  suffices h : ∀ (ts : List Nat) (l : Live), I l → ts.Nodup →
      ((∃ t ∈ ts, C t (l.tstate t) (st l)) → st (ts.foldl (startOne m) l) = .working) ∧
      ((∀ t ∈ ts, ¬ C t (l.tstate t) (st l)) → st (ts.foldl (startOne m) l) = st l) by
    rw [chkWorking_fold]
    obtain ⟨h1, h2⟩ := h ((List.range m.nT).filter (workingTarget m l)) l hl
      (List.nodup_range.sublist List.filter_sublist)
    refine ⟨fun ⟨t, ht, h3, h4⟩ => h1 ⟨t, List.mem_filter.mpr ⟨List.mem_range.mpr ht, h3⟩, h4⟩,
      fun h => h2 fun t ht => ?_⟩
    obtain ⟨ht1, ht2⟩ := List.mem_filter.mp ht
    exact h t (List.mem_range.mp ht1) ht2
  intro ts
  induction ts with
  | nil => exact fun l _ _ => ⟨fun ⟨_, h, _⟩ => (nomatch h), fun _ => rfl⟩
  | cons t ts ih =>
    intro l hl hnd
    obtain ⟨hnt, hnd'⟩ := List.nodup_cons.mp hnd
    obtain ⟨i1, i2⟩ := ih (startOne m l t) (hI l t hl) hnd'
    rw [List.foldl_cons]
    by_cases hc : C t (l.tstate t) (st l)
    · -- set at `t`; whatever the later steps do, they leave it WORKING
      exact ⟨fun _ => (Classical.em _).elim i1 fun hn =>
          (i2 fun t' ht' hc' => hn ⟨t', ht', hc'⟩).trans (hyes l t hl hc),
        fun h => absurd hc (h t List.mem_cons_self)⟩
    · -- the step at `t` changes neither the resource nor the state of a later task
      have e := hno l t hl hc
      have et : ∀ t' ∈ ts, (startOne m l t).tstate t' = l.tstate t' := fun t' ht' => by
        rw [Lifecycle.startOne_tstate]; split
        · exact upd_other _ _ _ _ fun e' => hnt (e' ▸ ht')
        · rfl
      constructor
      · rintro ⟨t', ht', hc'⟩
        rcases List.mem_cons.mp ht' with rfl | ht'
        · exact absurd hc' hc
        · exact i1 ⟨t', ht', by rw [et t' ht', e]; exact hc'⟩
      · intro h
        rw [i2 fun t' ht' => by rw [et t' ht', e]; exact h t' (List.mem_cons_of_mem _ ht'), e]

theorem workingTarget_of_alloc {m : Model} {l : Live} {t : Nat}
    (hs : l.tstate t = .ready ∨ l.tstate t = .working) (hne : l.allocW t ≠ []) :
    workingTarget m l t = true := by
  have : (l.allocW t).length > 0 := List.length_pos_iff.mpr hne
  unfold workingTarget
  rcases hs with hs | hs <;> simp [hs, this]

theorem chkWorking_wstate (m : Model) (l : Live) (w : Nat) :
    ((∃ t, t < m.nT ∧ workingTarget m l t = true ∧ w ∈ l.allocW t ∧
        (l.tstate t = .ready ∨ (l.tstate t = .working ∧ l.wstate w = .free))) →
      (chkWorking m l).wstate w = .working) ∧
    ((∀ t, t < m.nT → workingTarget m l t = true → w ∈ l.allocW t →
        ¬ (l.tstate t = .ready ∨ (l.tstate t = .working ∧ l.wstate w = .free))) →
      (chkWorking m l).wstate w = l.wstate w) := by
  obtain ⟨h1, h2⟩ := chkWorking_one m l (fun a => a.allocW = l.allocW) (fun a => a.wstate w)
    (fun t s r => w ∈ l.allocW t ∧ (s = .ready ∨ (s = .working ∧ r = .free))) rfl
    (fun a t ha => by rw [startOne_eq]; exact ha)
    (fun a t ha hc => by rw [startOne_wstate, ha, if_pos hc])
    (fun a t ha hc => by rw [startOne_wstate, ha, if_neg hc])
  exact ⟨h1, fun h => h2 fun t ht htar hc => h t ht htar hc.1 hc.2⟩

theorem chkWorking_fstate (m : Model) (l : Live) (f : Nat) :
    ((∃ t, t < m.nT ∧ workingTarget m l t = true ∧ (m.task t).needFac = true ∧ f ∈ l.allocF t ∧
        (l.tstate t = .ready ∨ (l.tstate t = .working ∧ l.allocW t ≠ [] ∧ l.fstate f = .free))) →
      (chkWorking m l).fstate f = .working) ∧
    ((∀ t, t < m.nT → workingTarget m l t = true → (m.task t).needFac = true → f ∈ l.allocF t →
        ¬ (l.tstate t = .ready ∨ (l.tstate t = .working ∧ l.allocW t ≠ [] ∧ l.fstate f = .free))) →
      (chkWorking m l).fstate f = l.fstate f) := by
  obtain ⟨h1, h2⟩ := chkWorking_one m l
    (fun a => a.allocW = l.allocW ∧ a.allocF = l.allocF) (fun a => a.fstate f)
    (fun t s r => (m.task t).needFac = true ∧ f ∈ l.allocF t ∧
      (s = .ready ∨ (s = .working ∧ l.allocW t ≠ [] ∧ r = .free))) ⟨rfl, rfl⟩
    (fun a t ha => by rw [startOne_eq]; exact ha)
    (fun a t ha hc => by rw [startOne_fstate, ha.1, ha.2, if_pos hc])
    (fun a t ha hc => by rw [startOne_fstate, ha.1, ha.2, if_neg hc])
  exact ⟨h1, fun h => h2 fun t ht htar hc => h t ht htar hc.1 hc.2.1 hc.2.2⟩

theorem AllocInv_chkWorking {m : Model} {l : Live} (h : AllocInv m l) :
    AllocInv m (chkWorking m l) := by
  rw [chkWorking_frame]
  exact h.congr rfl rfl rfl rfl fun t => ((Lifecycle.chkWorking_start m l).open_iff t).mpr

/-- `hh` is necessary (`chkWorking_HoldWorking_counterexample` in `Props/C03.lean`):
`check_state(WORKING)` only looks at the tasks below `m.nT` and starts a READY task only if it
holds a worker (or is automatic), so a READY task that holds just a facility stays READY.  Inside
the loop `hh` comes from `AfterPass.hold`: `allocate` gives a facility only together with a
worker, and only to tasks below `m.nT`. -/
theorem chkWorking_HoldWorking_partial {m : Model} {l : Live} (h : AllocInv m l)
    (hh : ∀ t, (l.allocW t ≠ [] ∨ l.allocF t ≠ []) →
      l.tstate t = .working ∨ (t < m.nT ∧ l.allocW t ≠ [])) :
    HoldWorking (chkWorking m l) := by
  intro t ht
  rw [chkWorking_frame] at ht
  rcases hh t ht with hw | ⟨hlt, hne⟩
  · exact (Lifecycle.chkWorking_start m l).working hw
  · have hs := h.holder t ht
    exact chkWorking_working_of_target hlt (workingTarget_of_alloc hs hne) hs

theorem AfterPass.hold {m : Model} {l0 l : Live} (h : AfterPass m l0 l) (hw0 : HoldWorking l0) :
    ∀ t, (l.allocW t ≠ [] ∨ l.allocF t ≠ []) →
      l.tstate t = .working ∨ (t < m.nT ∧ l.allocW t ≠ []) := by
  intro t ht
  rw [h.ts]
  rcases ht with ht | ht
  · obtain ⟨w, hw⟩ := List.exists_mem_of_ne_nil _ ht
    exact (h.srcW t w hw).imp (fun h' => hw0 t (Or.inl (List.ne_nil_of_mem h')))
      fun h' => ⟨h'.1, ht⟩
  · obtain ⟨f, hf⟩ := List.exists_mem_of_ne_nil _ ht
    exact (h.srcF t f hf).imp (fun h' => hw0 t (Or.inr (List.ne_nil_of_mem h')))
      fun h' => ⟨h'.1, h'.2.2.2.1⟩

/-- One resource `r` of one side (workers, or facilities) through the allocation pass and the
`check_state(WORKING)` that follows it.  Before the pass (`alloc0`, `asg0`) its state `s0` is the
one `ResInv` prescribes and every task that holds it is WORKING; `Fires t` is the condition under
which `check_state(WORKING)` sets it to WORKING at `t`.  The pass has left its assignment alone,
and then no task fires on it, or has given it, FREE, to a task that fires. -/
theorem TwoWay.resState_after {alloc0 asg0 alloc asg : Nat → List Nat} (h0 : TwoWay alloc0 asg0)
    (h : TwoWay alloc asg) (hnil : ∀ r, asg r = [] → asg0 r = []) {ts : Nat → TS} {r : Nat}
    (hw0 : ∀ t, r ∈ alloc0 t → ts t = .working) {absent wk : Bool} {s0 s1 : RS}
    (hexp : s0 = if wk then resState absent (asg0 r) else .absence) {Fires : Nat → Prop}
    (hfire : ∀ t, Fires t → r ∈ alloc t ∧ (ts t = .ready ∨ (ts t = .working ∧ s0 = .free)))
    (hnew : ∀ t, r ∈ alloc t → r ∉ alloc0 t → s0 = .free ∧ Fires t)
    (hyes : (∃ t, Fires t) → s1 = .working) (hno : (∀ t, ¬ Fires t) → s1 = s0) :
    s1 = if wk then resState absent (asg r) else .absence := by
  rcases h0.asg_cases h hnil r with e | ⟨t, e, hm, hn⟩
  · rw [e, ← hexp]
    refine hno fun t hf => ?_
    obtain ⟨hm, hc⟩ := hfire t hf
    have hm0 : r ∈ alloc0 t := (h0.two t r).mpr (e ▸ (h.two t r).mp hm)
    rcases hc with hc | ⟨_, hc⟩
    · rw [hw0 t hm0] at hc; cases hc
    · rw [hc, h0.asg_eq hm0] at hexp
      cases wk <;> cases absent <;> cases hexp
  · obtain ⟨hfree, hf⟩ := hnew t hm hn
    rw [hyes ⟨t, hf⟩, e]
    rw [hfree] at hexp
    cases wk
    · cases hexp
    · rw [((resState_iff _ _).2.2.mp hexp.symm).2]; rfl

theorem AfterPass.ResInv_chkWorking {m : Model} {time : Nat} {wk : Bool} {l0 l : Live}
    (h : AfterPass m l0 l) (h0 : AllocInv m l0) (hl : AllocInv m l) (hw0 : HoldWorking l0)
    (hr : ResInv m time wk l0) : ResInv m time wk (chkWorking m l) := by
  constructor
  · intro w hw
    rw [show (chkWorking m l).wasg = l.wasg by rw [chkWorking_frame]]
    -- `Fires t` is the condition of `chkWorking_wstate`; what the pass gave (`srcW`) was FREE, and
    -- its task, holding a worker now, is a target and fires
    refine h0.W.resState_after hl.W h.wasg_nil (hexp := hr.1 w hw)
      (Fires := fun t => t < m.nT ∧ workingTarget m l t = true ∧ w ∈ l.allocW t ∧
        (l.tstate t = .ready ∨ (l.tstate t = .working ∧ l.wstate w = .free)))
      (hw0 := fun t hm => hw0 t (Or.inl (List.ne_nil_of_mem hm)))
      (hfire := fun t hf => ⟨hf.2.2.1, h.ts ▸ h.ws ▸ hf.2.2.2⟩) (hnew := fun t hm hn => ?_)
      (hyes := (chkWorking_wstate m l w).1)
      (hno := fun hn => h.ws ▸ (chkWorking_wstate m l w).2 fun t a b c d => hn t ⟨a, b, c, d⟩)
    obtain ⟨ht, _, hfree⟩ := (h.srcW t w hm).resolve_left hn
    have hs := hl.holder t (Or.inl (List.ne_nil_of_mem hm))
    exact ⟨hfree, ht, workingTarget_of_alloc hs (List.ne_nil_of_mem hm), hm,
      hs.imp id fun h' => ⟨h', h.ws ▸ hfree⟩⟩
  · intro f hf'
    rw [show (chkWorking m l).fasg = l.fasg by rw [chkWorking_frame]]
    -- the same with `chkWorking_fstate` and `srcF`: a facility is given together with a worker
    refine h0.F.resState_after hl.F h.fasg_nil (hexp := hr.2 f hf')
      (Fires := fun t => t < m.nT ∧ workingTarget m l t = true ∧ (m.task t).needFac = true ∧
        f ∈ l.allocF t ∧
        (l.tstate t = .ready ∨ (l.tstate t = .working ∧ l.allocW t ≠ [] ∧ l.fstate f = .free)))
      (hw0 := fun t hm => hw0 t (Or.inr (List.ne_nil_of_mem hm)))
      (hfire := fun t hf =>
        ⟨hf.2.2.2.1, h.ts ▸ h.fs ▸ hf.2.2.2.2.imp id fun h' => ⟨h'.1, h'.2.2⟩⟩)
      (hnew := fun t hm hn => ?_) (hyes := (chkWorking_fstate m l f).1)
      (hno := fun hn => h.fs ▸ (chkWorking_fstate m l f).2 fun t a b c d e => hn t ⟨a, b, c, d, e⟩)
    obtain ⟨ht, hfree, _, hne, _⟩ := (h.srcF t f hm).resolve_left hn
    have hs := hl.holder t (Or.inl hne)
    exact ⟨hfree, ht, workingTarget_of_alloc hs hne, hl.fac_only t (List.ne_nil_of_mem hm),
      hm, hs.imp id fun h' => ⟨h', hne, h.fs ▸ hfree⟩⟩

/-! ### one step re-establishes all three invariants, `__update` keeps the first two -/

/-- steps 1'–3 of an iteration (absence states, `allocate`, `check_state(WORKING)`) -/
theorem Alloc.step_core {m : Model} (lg : Logs) (rule : TaskRule) (time : Nat) (wk : Bool) {l : Live}
    (h : AllocInv m l) (hw : HoldWorking l) :
    let l1 := absenceSet m time wk l
    let l3 := chkWorking m (if wk then allocate m lg rule l1 else l1)
    AllocInv m l3 ∧ HoldWorking l3 ∧ ResInv m time wk l3 := by
  intro l1 l3
  have h1 : AllocInv m l1 := AllocInv_absenceSet h
  have hw1 : HoldWorking l1 := HoldWorking_absenceSet hw
  have hr1 : ResInv m time wk l1 := ResInv_absenceSet m time wk l
  have hacc := AfterPass.allocate_or_skip m lg rule wk l1
  have h2 : AllocInv m (if wk then allocate m lg rule l1 else l1) := by
    cases wk
    · exact h1
    · exact allocate_AllocInv_partial lg rule h1 hr1.freeIdle
  exact ⟨AllocInv_chkWorking h2, chkWorking_HoldWorking_partial h2 (hacc.hold hw1),
    hacc.ResInv_chkWorking h1 h2 hw1 hr1⟩

/-- … with the guard of `check_state(WORKING)` (`g = wk || autoFlag`): when it is off the step is
an absence step, nothing was allocated and nothing starts -/
theorem Alloc.step_core_guard {m : Model} (lg : Logs) (rule : TaskRule) (time : Nat) (wk g : Bool)
    {l : Live} (hg : wk = true → g = true) (h : AllocInv m l) (hw : HoldWorking l) :
    let l1 := absenceSet m time wk l
    let l2 := if wk then allocate m lg rule l1 else l1
    let l3 := if g then chkWorking m l2 else l2
    AllocInv m l3 ∧ HoldWorking l3 ∧ ResInv m time wk l3 := by
  cases g
  · cases wk
    · exact ⟨AllocInv_absenceSet h, HoldWorking_absenceSet hw, ResInv_absenceSet m time false l⟩
    · exact absurd (hg rfl) (by decide)
  · exact Alloc.step_core lg rule time wk h hw

theorem AllocInv_stepBody {m : Model} (p : Params) {s : St}
    (h : AllocInv m s.live) (hw : HoldWorking s.live) :
    AllocInv m (stepBody m p s).live ∧ HoldWorking (stepBody m p s).live ∧
    ResInv m s.time (workingAt p s.time) (stepBody m p s).live := by
  obtain ⟨a, b, c⟩ := Alloc.step_core_guard s.logs p.rule s.time (!(p.absence.contains s.time))
    (Lifecycle.startGuard p s) (fun e => by unfold Lifecycle.startGuard; rw [e]; rfl) h hw
  rw [Lifecycle.stepBody_live, perform_eq, compCheck_eq]
  exact ⟨a.congr rfl rfl rfl rfl (fun _ h => h), b.congr rfl rfl (fun _ h => h),
    c.congr rfl rfl rfl rfl⟩

theorem AllocInv_update {m : Model} (time : Nat) {l : Live} (h : AllocInv m l) (hw : HoldWorking l) :
    AllocInv m (update m time l) ∧ HoldWorking (update m time l) := by
  have a1 := AllocInv_chkFinished h
  have b1 := HoldWorking_chkFinished h hw
  -- the field equations first: `a1.congr rfl …` against the record is dear
  have e := update_frame m time l
  have eW : (update m time l).allocW = (chkFinished m l).allocW := by rw [e]
  have eF : (update m time l).allocF = (chkFinished m l).allocF := by rw [e]
  have ewa : (update m time l).wasg = (chkFinished m l).wasg := by rw [e]
  have efa : (update m time l).fasg = (chkFinished m l).fasg := by rw [e]
  have eT : (update m time l).tstate = (chkReady m (chkFinished m l)).tstate := by rw [e]
  refine ⟨a1.congr eW eF ewa efa fun t ht => ?_, b1.congr eW eF fun t ht => ?_⟩
  · rw [eT, Lifecycle.chkReady_keeps m _ t ht]; exact ht
  · rw [eT, Lifecycle.chkReady_keeps m _ t (Or.inr ht)]; exact ht

theorem AllocInv_loopInv (m : Model) (p : Params) :
    LoopInv m p (fun s => AllocInv m s.live ∧ HoldWorking s.live) :=
  .of_live (I := fun l => AllocInv m l ∧ HoldWorking l) (fun time _ h => AllocInv_update time h.1 h.2)
    (fun _ h => ⟨(AllocInv_stepBody p h.1 h.2).1, (AllocInv_stepBody p h.1 h.2).2.1⟩)

/-! ### `initialize` empties every allocation list -/

theorem AllocInv_of_empty {m : Model} {l : Live}
    (h1 : ∀ t, l.allocW t = []) (h2 : ∀ t, l.allocF t = [])
    (h3 : ∀ w, l.wasg w = []) (h4 : ∀ f, l.fasg f = []) : AllocInv m l ∧ HoldWorking l :=
  ⟨by constructor <;> simp [h1, h2, h3, h4], fun t => by simp [h1, h2]⟩

theorem AllocInv_enter (m : Model) {p : Params} (hp : p.initState = true) (s : St) :
    AllocInv m (enter m p s).live ∧ HoldWorking (enter m p s).live := by
  obtain ⟨h1, h2, h3, h4⟩ := Lifecycle.enter_live_empty m hp s
  exact AllocInv_of_empty h1 h2 h3 h4

/-! ### nothing is ever allocated out of range (for `C03_final_outclean`) -/

/-- nothing is allocated outside the index ranges of the model -/
def OutClean (m : Model) (l : Live) : Prop :=
  (∀ t, m.nT ≤ t → l.allocW t = [] ∧ l.allocF t = []) ∧
  (∀ w, m.nW ≤ w → l.wasg w = []) ∧ (∀ f, m.nF ≤ f → l.fasg f = [])

theorem OutClean_empty (m : Model) : OutClean m Live.empty := by
  simp [OutClean, Live.empty]

/-- every facility listed by a workplace is a facility of the model -/
def FacsInRange (m : Model) : Prop := ∀ p f, f ∈ (m.wp p).facs → f < m.nF

/-- whoever holds is a task of the model, whatever is held a worker or a facility of the model -/
def InRange (m : Model) (l : Live) : Prop :=
  (∀ t w, w ∈ l.allocW t → t < m.nT ∧ w < m.nW) ∧ (∀ t f, f ∈ l.allocF t → t < m.nT ∧ f < m.nF)

theorem InRange_enter (m : Model) {p : Params} (hp : p.initState = true) (s : St) :
    InRange m (enter m p s).live := by
  obtain ⟨h1, h2, _, _⟩ := Lifecycle.enter_live_empty m hp s
  exact ⟨fun t w hw => (by rw [h1 t] at hw; cases hw), fun t f hf => (by rw [h2 t] at hf; cases hf)⟩

theorem InRange.outClean {m : Model} {l : Live} (hr : InRange m l) (h : AllocInv m l) :
    OutClean m l := by
  refine ⟨fun t ht => ⟨?_, ?_⟩, fun w hw => ?_, fun f hf => ?_⟩ <;>
    refine List.eq_nil_iff_forall_not_mem.mpr fun x hx => ?_
  · exact absurd (hr.1 t x hx).1 (Nat.not_lt.mpr ht)
  · exact absurd (hr.2 t x hx).1 (Nat.not_lt.mpr ht)
  · exact absurd (hr.1 x w ((h.w_two x w).mpr hx)).2 (Nat.not_lt.mpr hw)
  · exact absurd (hr.2 x f ((h.f_two x f).mpr hx)).2 (Nat.not_lt.mpr hf)

/-- the worker clause of `InRange` alone (field `rng` of `Live.Inv`): through a step it needs no
`FacsInRange`, unlike the facility clause -/
theorem InRange_update_workers {m : Model} (time : Nat) {l : Live}
    (hr : ∀ t w, w ∈ l.allocW t → t < m.nT ∧ w < m.nW) :
    ∀ t w, w ∈ (update m time l).allocW t → t < m.nT ∧ w < m.nW := by
  rw [update_frame]
  exact fun t w hw => hr t w ((chkFinished_alloc_sub m l).1 t w hw)

theorem InRange_update {m : Model} (time : Nat) {l : Live} (hr : InRange m l) :
    InRange m (update m time l) := by
  refine ⟨InRange_update_workers time hr.1, ?_⟩
  rw [update_frame]
  exact fun t f hf => hr.2 t f ((chkFinished_alloc_sub m l).2 t f hf)

theorem InRange_stepBody_workers {m : Model} (p : Params) {s : St}
    (hr : ∀ t w, w ∈ s.live.allocW t → t < m.nT ∧ w < m.nW) :
    ∀ t w, w ∈ (stepBody m p s).live.allocW t → t < m.nT ∧ w < m.nW := by
  rw [Lifecycle.stepBody_allocW]
  refine fun t w hw => ((Lifecycle.preWorking_afterPass m p s).srcW t w hw).elim ?_
    fun h' => ⟨h'.1, h'.2.1⟩
  rw [absenceSet_eq]; exact hr t w

theorem InRange_stepBody {m : Model} (p : Params) {s : St} (hwf : FacsInRange m)
    (hr : InRange m s.live) : InRange m (stepBody m p s).live := by
  refine ⟨InRange_stepBody_workers p hr.1, ?_⟩
  rw [Lifecycle.stepBody_allocF]
  refine fun t f hf => ((Lifecycle.preWorking_afterPass m p s).srcF t f hf).elim ?_
    fun ⟨ht, _, _, _, _, q, _, hq⟩ => ⟨ht, hwf q f hq⟩
  rw [absenceSet_eq]; exact hr.2 t f

/-- an invariant on its own: it needs no `AllocInv` -/
theorem InRange_loopInv {m : Model} (hwf : FacsInRange m) (p : Params) :
    LoopInv m p (fun s => InRange m s.live) :=
  .of_live (fun time _ h => InRange_update time h) (fun _ h => InRange_stepBody p hwf h)

/-! Nothing in the library rests on what follows; the names are end results of the development and
stay. -/

theorem chkWorking_HoldWorking {m : Model} {l : Live} (h : HoldWorking l) :
    HoldWorking (chkWorking m l) := by
  rw [chkWorking_frame]
  exact h.congr rfl rfl fun t ht => (Lifecycle.chkWorking_start m l).working ht

theorem Alloc.allocate_states {m : Model} (lg : Logs) (rule : TaskRule) {l : Live}
    (h : AllocInv m l) (hfree : FreeIdle m l) :
    (allocate m lg rule l).tstate = l.tstate ∧ (allocate m lg rule l).wstate = l.wstate ∧
    (allocate m lg rule l).fstate = l.fstate := by
  rw [allocate_frame]; exact ⟨rfl, rfl, rfl⟩

end PDesy
