/-
  PDesy.Lemmas.Runs — maximal runs of a value in a list (independent specification of what a
  Gantt encoder must return), `runsOf` returns exactly those, and one argument (`encoder_runs`)
  for the encoders of `PDesy.Model.Report` (C19): `gantt2_eq_runs` is its instance for the two-state
  shape of `ganttT` and `ganttC` (`ganttT_eq_runs`, `ganttC_eq_runs`), `ganttR_eq_runs` the one for
  `ganttR`; plotly rows, `extractIdx`.
-/
import PDesy.Model.Report

namespace PDesy.Runs

variable {σ : Type}

/-- independent definition: `[b, b+n)` is a maximal run of `v` in `log` -/
def IsMaxRun (log : List σ) (v : σ) (b n : Nat) : Prop :=
  1 ≤ n ∧ (∀ i, i < n → log[b + i]? = some v) ∧ (b = 0 ∨ log[b - 1]? ≠ some v) ∧ log[b + n]? ≠ some v

theorem IsMaxRun.cons_succ {xs : List σ} {v : σ} {b n : Nat} (x : σ) (h : IsMaxRun xs v b n)
    (hx : b = 0 → x ≠ v) : IsMaxRun (x :: xs) v (b + 1) n := by
  obtain ⟨h1, h2, h3, h4⟩ := h
  refine ⟨h1, fun i hi => ?_, Or.inr ?_, ?_⟩
  · rw [Nat.add_right_comm, List.getElem?_cons_succ]; exact h2 i hi
  · rw [Nat.add_sub_cancel]
    cases b with
    | zero => exact fun e => hx rfl (Option.some.inj e)
    | succ c => rw [List.getElem?_cons_succ]; exact h3.resolve_left (Nat.succ_ne_zero c)
  · rw [Nat.add_right_comm, List.getElem?_cons_succ]; exact h4

theorem IsMaxRun.cons_same {xs : List σ} {v : σ} {n : Nat} (h : IsMaxRun xs v 0 n) :
    IsMaxRun (v :: xs) v 0 (n + 1) := by
  obtain ⟨_, h2, _, h4⟩ := h
  refine ⟨Nat.le_add_left .., fun i hi => ?_, Or.inl rfl, ?_⟩
  · cases i with
    | zero => rfl
    | succ j => rw [← Nat.add_assoc, List.getElem?_cons_succ]; exact h2 j (Nat.lt_of_succ_lt_succ hi)
  · rw [← Nat.add_assoc, List.getElem?_cons_succ]; exact h4

theorem IsMaxRun.single {xs : List σ} {v : σ} (h : xs[0]? ≠ some v) : IsMaxRun (v :: xs) v 0 1 :=
  ⟨Nat.le_refl 1, fun i hi => by rw [Nat.lt_one_iff.1 hi]; rfl, Or.inl rfl, h⟩

theorem IsMaxRun.gap {log : List σ} {v : σ} {a n a' n' : Nat}
    (h : IsMaxRun log v a n) (h' : IsMaxRun log v a' n') (hlt : a < a') : a + n < a' := by
  apply Nat.lt_of_not_le
  intro hle
  -- otherwise the second run begins at the end of the first or inside it
  rcases Nat.eq_or_lt_of_le hle with e | hlt'
  · exact h.2.2.2 (e ▸ h'.2.1 0 h'.1)
  · obtain ⟨d, rfl⟩ : ∃ d, a' = a + d + 1 := ⟨a' - a - 1, by omega⟩
    exact (h'.2.2.1.resolve_left (Nat.succ_ne_zero _)) (h.2.1 d (by omega))

theorem IsMaxRun.eq_of_overlap {log : List σ} {v : σ} {a n a' n' k : Nat}
    (h : IsMaxRun log v a n) (h' : IsMaxRun log v a' n')
    (hk : a ≤ k ∧ k < a + n) (hk' : a' ≤ k ∧ k < a' + n') : a = a' ∧ n = n' := by
  -- neither run begins before the other (it would end before the other begins), neither is longer
  obtain rfl : a = a' := Nat.le_antisymm
    (Nat.le_of_not_lt fun hgt => by have := h'.gap h hgt; omega)
    (Nat.le_of_not_lt fun hlt => by have := h.gap h' hlt; omega)
  exact ⟨rfl, Nat.le_antisymm (Nat.le_of_not_lt fun hgt => h'.2.2.2 (h.2.1 n' hgt))
    (Nat.le_of_not_lt fun hlt => h.2.2.2 (h'.2.1 n hlt))⟩

variable [DecidableEq σ]

/-- put one more element `x` (at index `start`) in front of an already encoded tail -/
def rleCons (x : σ) (start : Nat) : List (σ × Nat × Nat) → List (σ × Nat × Nat)
  | [] => [(x, start, 1)]
  | (y, s, n) :: rest => if x = y then (y, start, n + 1) :: rest else (x, start, 1) :: (y, s, n) :: rest

/-- run-length encoding of `log`, whose first element has index `start`:
the list of `(value, start index, length)` of the maximal blocks of equal values, in order -/
def rleFrom (start : Nat) : List σ → List (σ × Nat × Nat)
  | [] => []
  | x :: xs => rleCons x start (rleFrom (start + 1) xs)

def runsFrom (start : Nat) (st : σ) (log : List σ) : List (Nat × Nat) :=
  ((rleFrom start log).filter (fun r => r.1 = st)).map (fun r => r.2)

/-- the maximal runs of `st` in `log` as `(start index, length)`, in order -/
def runsOf (st : σ) (log : List σ) : List (Nat × Nat) := runsFrom 0 st log

theorem rleFrom_cons_head (s : Nat) (x : σ) (xs : List σ) :
    ∃ n tl, rleFrom s (x :: xs) = (x, s, n + 1) :: tl := by
  induction xs generalizing s x with
  | nil => exact ⟨0, [], rfl⟩
  | cons y ys ih =>
    obtain ⟨n, tl, h⟩ := ih (s + 1) y
    rw [rleFrom, h]
    by_cases hxy : x = y
    · subst hxy; exact ⟨n + 1, tl, by simp [rleCons]⟩
    · exact ⟨0, (y, s + 1, n + 1) :: tl, by simp [rleCons, hxy]⟩

/-- `rleFrom` unfolded once, with the first block of the tail named: the `if` of `rleCons` is then
one on `x = y` and can be decided -/
theorem rleFrom_cons_cases (s : Nat) (x : σ) (xs : List σ) :
    (xs = [] ∧ rleFrom s (x :: xs) = [(x, s, 1)]) ∨
    (∃ y ys n tl, xs = y :: ys ∧ rleFrom (s + 1) xs = (y, s + 1, n + 1) :: tl ∧
      rleFrom s (x :: xs) =
        if x = y then (y, s, n + 2) :: tl else (x, s, 1) :: (y, s + 1, n + 1) :: tl) := by
  cases xs with
  | nil => exact Or.inl ⟨rfl, rfl⟩
  | cons y ys =>
    obtain ⟨n, tl, h⟩ := rleFrom_cons_head (s + 1) y ys
    refine Or.inr ⟨y, ys, n, tl, rfl, h, ?_⟩
    rw [rleFrom, h]; rfl

theorem rleFrom_starts (s : Nat) (log : List σ) :
    (rleFrom s log).Pairwise (fun r1 r2 => r1.2.1 < r2.2.1) := by
  induction log generalizing s with
  | nil => exact .nil
  | cons x xs ih =>
    have h2 := ih (s + 1)
    rcases rleFrom_cons_cases s x xs with ⟨_, h⟩ | ⟨y, ys, n, tl, _, h, h'⟩
    · rw [h]; exact List.pairwise_singleton ..
    · rw [h, List.pairwise_cons] at h2
      have htl : ∀ r ∈ tl, s < r.2.1 := fun r hr => Nat.lt_of_succ_lt (h2.1 r hr)
      rw [h']
      split
      · exact List.pairwise_cons.2 ⟨htl, h2.2⟩
      · exact List.pairwise_cons.2 ⟨List.forall_mem_cons.2 ⟨Nat.lt_succ_self s, htl⟩,
          List.pairwise_cons.2 h2⟩

theorem rleFrom_sound (s : Nat) (log : List σ) :
    ∀ r ∈ rleFrom s log, ∃ b, r.2.1 = s + b ∧ IsMaxRun log r.1 b r.2.2 := by
  induction log generalizing s with
  | nil => nofun
  | cons x xs ih =>
    have ih := ih (s + 1)
    have hst := rleFrom_starts (s + 1) xs
    rcases rleFrom_cons_cases s x xs with ⟨rfl, h⟩ | ⟨y, ys, n, tl, rfl, h, h'⟩
    · rw [h]; exact List.forall_mem_singleton.2 ⟨0, rfl, .single nofun⟩
    · rw [h] at ih hst
      rw [List.pairwise_cons] at hst
      obtain ⟨b0, hb0, hrun0⟩ := ih _ List.mem_cons_self
      obtain rfl : b0 = 0 := by simpa using hb0
      -- the blocks behind the first one only move one place to the right
      have htl : ∀ r ∈ tl, ∃ b, r.2.1 = s + b ∧ IsMaxRun (x :: y :: ys) r.1 b r.2.2 := by
        intro r hr
        obtain ⟨b, hb, hrun⟩ := ih r (List.mem_cons_of_mem _ hr)
        have : s + 1 < r.2.1 := hst.1 r hr
        exact ⟨b + 1, by omega, hrun.cons_succ x (by omega)⟩
      rw [h']
      split
      next hxy =>
        subst hxy
        exact List.forall_mem_cons.2 ⟨⟨0, rfl, hrun0.cons_same⟩, htl⟩
      next hxy =>
        exact List.forall_mem_cons.2 ⟨⟨0, rfl, .single (by simpa using fun e => hxy e.symm)⟩,
          List.forall_mem_cons.2 ⟨⟨1, rfl, hrun0.cons_succ x fun _ => hxy⟩, htl⟩⟩

theorem rleFrom_cover (s : Nat) (log : List σ) (k : Nat) (v : σ) (hk : log[k]? = some v) :
    ∃ a n, (v, a, n) ∈ rleFrom s log ∧ a ≤ s + k ∧ s + k < a + n := by
  induction log generalizing s k with
  | nil => cases hk
  | cons x xs ih =>
    cases k with
    | zero =>
      cases hk
      obtain ⟨n, tl, e⟩ := rleFrom_cons_head s v xs
      exact ⟨s, n + 1, e ▸ List.mem_cons_self, Nat.le_refl _, Nat.lt_add_of_pos_right n.succ_pos⟩
    | succ j =>
      -- a later position lies in a block of the tail, which is kept or grows by one to the left
      obtain ⟨a, m, hmem, h1, h2⟩ := ih (s + 1) j hk
      rw [Nat.add_right_comm] at h1 h2
      rcases rleFrom_cons_cases s x xs with ⟨rfl, _⟩ | ⟨y, ys, n, tl, rfl, h, h'⟩
      · cases hmem
      · rw [h']; rw [h] at hmem
        split
        next hxy =>
          rcases List.mem_cons.1 hmem with he | hmem
          · cases he; exact ⟨s, n + 2, hxy ▸ List.mem_cons_self, Nat.le_add_right .., by omega⟩
          · exact ⟨a, m, List.mem_cons_of_mem _ hmem, h1, h2⟩
        next => exact ⟨a, m, List.mem_cons_of_mem _ hmem, h1, h2⟩

theorem mem_runsFrom {s : Nat} {st : σ} {log : List σ} {a n : Nat} :
    (a, n) ∈ runsFrom s st log ↔ (st, a, n) ∈ rleFrom s log := by
  simp only [runsFrom, List.mem_map, List.mem_filter, decide_eq_true_eq]
  constructor
  · rintro ⟨⟨v, a', n'⟩, ⟨hm, hv⟩, he⟩
    simp only [Prod.mk.injEq] at he hv
    obtain ⟨rfl, rfl⟩ := he
    subst hv; exact hm
  · intro h; exact ⟨(st, a, n), ⟨h, rfl⟩, rfl⟩

theorem runsOf_sound {st : σ} {log : List σ} {a n : Nat} (h : (a, n) ∈ runsOf st log) :
    IsMaxRun log st a n := by
  obtain ⟨b, hb, hrun⟩ := rleFrom_sound 0 log _ (mem_runsFrom.mp h)
  simp only [Nat.zero_add] at hb
  subst hb; exact hrun

theorem runsOf_cover {st : σ} {log : List σ} {k : Nat} (hk : log[k]? = some st) :
    ∃ r ∈ runsOf st log, r.1 ≤ k ∧ k < r.1 + r.2 := by
  obtain ⟨a, n, hm, h1, h2⟩ := rleFrom_cover 0 log k st hk
  exact ⟨(a, n), mem_runsFrom.mpr hm, by simpa using h1, by simpa using h2⟩

theorem runsOf_cover_unique {st : σ} {log : List σ} {k : Nat} (hk : log[k]? = some st) :
    ∃ r, (r ∈ runsOf st log ∧ r.1 ≤ k ∧ k < r.1 + r.2) ∧
      ∀ r', (r' ∈ runsOf st log ∧ r'.1 ≤ k ∧ k < r'.1 + r'.2) → r' = r := by
  obtain ⟨r, hr, h1, h2⟩ := runsOf_cover hk
  refine ⟨r, ⟨hr, h1, h2⟩, ?_⟩
  rintro ⟨a', n'⟩ ⟨hr', h1', h2'⟩
  obtain ⟨a, n⟩ := r
  obtain ⟨rfl, rfl⟩ := (runsOf_sound hr').eq_of_overlap (runsOf_sound hr) ⟨h1', h2'⟩ ⟨h1, h2⟩
  rfl

theorem runsOf_complete {st : σ} {log : List σ} {a n : Nat} (h : IsMaxRun log st a n) :
    (a, n) ∈ runsOf st log := by
  have hk : log[a]? = some st := by simpa using h.2.1 0 h.1
  obtain ⟨⟨a', n'⟩, hr, h1, h2⟩ := runsOf_cover hk
  obtain ⟨rfl, rfl⟩ := h.eq_of_overlap (runsOf_sound hr) ⟨Nat.le_refl _, by have := h.1; omega⟩ ⟨h1, h2⟩
  exact hr

theorem mem_runsOf {st : σ} {log : List σ} {a n : Nat} :
    (a, n) ∈ runsOf st log ↔ IsMaxRun log st a n := ⟨runsOf_sound, runsOf_complete⟩

theorem runsOf_sorted (st : σ) (log : List σ) :
    (runsOf st log).Pairwise (fun r1 r2 => r1.1 + r1.2 < r2.1) := by
  have hp : (runsOf st log).Pairwise (fun r1 r2 => r1.1 < r2.1) :=
    ((rleFrom_starts 0 log).filter _).map _ (fun _ _ h => h)
  exact hp.imp_of_mem fun hr hr' hlt => (runsOf_sound hr).gap (runsOf_sound hr') hlt

theorem runsOf_nodup (st : σ) (log : List σ) : (runsOf st log).Nodup :=
  (runsOf_sorted st log).imp (fun {r1 r2} h heq => by subst heq; omega)

/-! A leading block of equal values with another value behind it is one run: its triple splits off
the encoding (the step of the encoder proofs). -/

theorem replicate_append_cons {α : Type} (k : Nat) (p : α) (rest : List α) :
    List.replicate (k + 1) p ++ p :: rest = List.replicate (k + 1 + 1) p ++ rest := by
  rw [List.replicate_succ' (n := k + 1), List.append_assoc]; rfl

theorem rleFrom_replicate_append (f k : Nat) (p : σ) (rest : List σ) (h : rest.head? ≠ some p) :
    rleFrom f (List.replicate (k + 1) p ++ rest) = (p, f, k + 1) :: rleFrom (f + k + 1) rest := by
  induction k generalizing f with
  | zero =>
    show rleCons p f (rleFrom (f + 1) rest) = _
    cases rest with
    | nil => rfl
    | cons y ys =>
      obtain ⟨n, tl, e⟩ := rleFrom_cons_head (f + 1) y ys
      rw [e, rleCons, if_neg fun e => h (by rw [e]; rfl)]
  | succ k ih =>
    show rleCons p f (rleFrom (f + 1) (List.replicate (k + 1) p ++ rest)) = _
    rw [ih (f + 1), rleCons, if_pos rfl, Nat.add_right_comm f 1 k]; rfl

theorem runsFrom_replicate_append (f k : Nat) (p st : σ) (rest : List σ) (h : rest.head? ≠ some p) :
    runsFrom f st (List.replicate (k + 1) p ++ rest) =
      (if p = st then [(f, k + 1)] else []) ++ runsFrom (f + k + 1) st rest := by
  unfold runsFrom
  rw [rleFrom_replicate_append f k p rest h]
  by_cases hp : p = st <;> simp [hp]

theorem runsFrom_nil (f : Nat) (st : σ) : runsFrom f st ([] : List σ) = [] := rfl

theorem runsFrom_cons_ne (s : Nat) (st x : σ) (xs : List σ) (h : x ≠ st) :
    runsFrom s st (x :: xs) = runsFrom (s + 1) st xs := by
  unfold runsFrom
  rcases rleFrom_cons_cases s x xs with ⟨hxs, h'⟩ | ⟨y, ys, n, tl, hxs, h1, h'⟩
  · subst hxs; rw [h']; simp [rleFrom, h]
  · rw [h', h1]
    split
    · rename_i hxy; subst hxy; simp [h]
    · simp [h]

/-- how a run `(start, length)` is reported: `(start, (length − 1) + finish_margin)` -/
def enc (margin : Rat) (r : Nat × Nat) : Iv := (r.1, ((r.2 - 1 : Nat) : Rat) + margin)

theorem ivEnded_eq_enc (f k : Nat) (margin : Rat) :
    ivEnded f (f + k + 1) margin = enc margin (f, k + 1) := by
  simp only [ivEnded, enc, Nat.add_sub_cancel, Nat.add_sub_cancel_left]

/-! What the three Gantt encoders have in common.
In state `run p f a` a run of `p` that began at step `f` is open and `a` holds what was emitted
before; the same value leaves the state alone, another one closes the run (`emit`), and so does
the end of the log (`fin`: the code after the loop closes the run as a change at step
`log.length` would).  Before the first run (`idle`) a value is skipped or opens a run.  All this
seen through one component `o` of `a`, which collects the runs of `v`. -/
section Encoder
variable {G A : Type} {margin : Rat}
  {loop : G → Nat → List σ → G} {step : G → Nat → σ → G} {run : σ → Nat → A → G}
  {emit : A → σ → Iv → A} {fin : G → Nat → A} {o : A → List Iv} {v : σ}
  (hnil : ∀ g t, loop g t [] = g)
  (hcons : ∀ g t st rest, loop g t (st :: rest) = loop (step g t st) (t + 1) rest)
  (hsame : ∀ p f a t, step (run p f a) t p = run p f a)
  (hchange : ∀ p f a t st, st ≠ p → step (run p f a) t st = run st t (emit a p (ivEnded f t margin)))
  (hfin : ∀ p f a len, fin (run p f a) len = emit a p (ivEnded f len margin))
  (ho : ∀ a p iv, o (emit a p iv) = if p = v then o a ++ [iv] else o a)
include hnil hcons hsame hchange hfin ho

/-- the loop invariant, phrased towards the future: the open run of `p` (begun at `f`, `k+1` long so
far) is put back in front of what is left of the log -/
theorem encoder_run (rest : List σ) : ∀ p f a k,
    o (fin (loop (run p f a) (f + k + 1) rest) (f + k + 1 + rest.length)) =
      o a ++ (runsFrom f v (List.replicate (k + 1) p ++ rest)).map (enc margin) := by
  induction rest with
  | nil =>
    intro p f a k
    rw [hnil, hfin, ho, List.length_nil, Nat.add_zero, ivEnded_eq_enc,
      runsFrom_replicate_append f k p v [] nofun, runsFrom_nil, List.append_nil]
    split <;> simp
  | cons st rest ih =>
    intro p f a k
    rw [hcons, List.length_cons, ← Nat.add_assoc, Nat.add_right_comm _ rest.length]
    by_cases h : st = p
    · subst h
      rw [hsame, replicate_append_cons]
      exact ih st f a (k + 1)
    · rw [hchange _ _ _ _ _ h, ih st (f + k + 1) _ 0, ho, ivEnded_eq_enc,
        runsFrom_replicate_append f k p v (st :: rest) (by simpa using h)]
      split <;> simp

theorem encoder_runs {idle : G} {a0 : A}
    (hidle : ∀ t st, st ≠ v ∧ step idle t st = idle ∨ step idle t st = run st t a0)
    (hfin0 : ∀ len, fin idle len = a0) (log : List σ) : ∀ t,
    o (fin (loop idle t log) (log.length + t)) = o a0 ++ (runsFrom t v log).map (enc margin) := by
  induction log with
  | nil => intro t; rw [hnil, hfin0, runsFrom_nil, List.map_nil, List.append_nil]
  | cons st rest ih =>
    intro t
    rw [hcons, List.length_cons, Nat.add_right_comm]
    rcases hidle t st with ⟨hv, h⟩ | h
    · rw [h, runsFrom_cons_ne _ _ _ _ hv]; exact ih (t + 1)
    · rw [h, Nat.add_comm rest.length, Nat.add_right_comm]
      exact encoder_run hnil hcons hsame hchange hfin ho rest st t a0 0
end Encoder

/-! Tasks and components: the same code over `GT σ`, with NONE = `nv`, READY = `rv`, WORKING = `wv`. -/

/-- the code after the loop of `ganttT` / `ganttC`: `ganttT log margin` is
`fin2 .ready .working margin (ganttTLoop margin ⟨.none, none, [], []⟩ 0 log) log.length` by `rfl`, and
likewise `ganttC` -/
def fin2 (rv wv : σ) (margin : Rat) (g : GT σ) (len : Nat) : List Iv × List Iv :=
  match g.frm with
  | Option.none => (g.ready, g.working)
  | some f =>
    let iv : Iv := (f, (((len - 1 - f : Nat) : Rat)) + margin)
    if g.prev = wv then (g.ready, g.working ++ [iv])
    else if g.prev = rv then (g.ready ++ [iv], g.working)
    else (g.ready, g.working)

def emit2 (rv wv : σ) (a : List Iv × List Iv) (p : σ) (iv : Iv) : List Iv × List Iv :=
  (if p = rv then a.1 ++ [iv] else a.1, if p = wv then a.2 ++ [iv] else a.2)

theorem fin2_run {rv wv : σ} (hrw : rv ≠ wv) (margin : Rat) (p : σ) (f : Nat)
    (a : List Iv × List Iv) (len : Nat) :
    fin2 rv wv margin ⟨p, some f, a.1, a.2⟩ len = emit2 rv wv a p (ivEnded f len margin) := by
  unfold fin2 emit2 ivEnded
  by_cases h1 : p = wv
  · subst h1; simp [Ne.symm hrw]
  · by_cases h2 : p = rv
    · subst h2; simp [hrw]
    · simp [h1, h2]

theorem gantt2_eq_runs {rv wv nv : σ} {margin : Rat} {loop : GT σ → Nat → List σ → GT σ}
    {step : GT σ → Nat → σ → GT σ} (hrw : rv ≠ wv) (hnr : nv ≠ rv) (hnw : nv ≠ wv)
    (hnil : ∀ g t, loop g t [] = g)
    (hcons : ∀ g t st rest, loop g t (st :: rest) = loop (step g t st) (t + 1) rest)
    (hsame : ∀ p f R W t, step ⟨p, some f, R, W⟩ t p = ⟨p, some f, R, W⟩)
    (hchange : ∀ p f R W t st, st ≠ p → step ⟨p, some f, R, W⟩ t st =
      ⟨st, some t, if p = rv then R ++ [ivEnded f t margin] else R,
        if p = wv then W ++ [ivEnded f t margin] else W⟩)
    (hskip : ∀ t, step ⟨nv, Option.none, [], []⟩ t nv = ⟨nv, Option.none, [], []⟩)
    (hopen : ∀ t st, st ≠ nv → step ⟨nv, Option.none, [], []⟩ t st = ⟨st, some t, [], []⟩)
    (log : List σ) :
    fin2 rv wv margin (loop ⟨nv, Option.none, [], []⟩ 0 log) log.length =
      ((runsOf rv log).map (enc margin), (runsOf wv log).map (enc margin)) := by
  have key := fun (o : List Iv × List Iv → List Iv) v ho (hv : nv ≠ v) =>
    encoder_runs (o := o) (v := v) (loop := loop) (fin := fin2 rv wv margin)
      (run := fun p f (a : List Iv × List Iv) => (⟨p, some f, a.1, a.2⟩ : GT σ))
      (idle := ⟨nv, Option.none, [], []⟩) hnil hcons (fun p f a => hsame p f a.1 a.2)
      (fun p f a => hchange p f a.1 a.2) (fin2_run hrw margin) ho
      (fun t st => if h : st = nv then .inl ⟨h ▸ hv, h ▸ hskip t⟩ else .inr (hopen t st h))
      (fun _ => rfl) log 0
  exact Prod.ext (key Prod.fst rv (fun _ _ _ => rfl) hnr) (key Prod.snd wv (fun _ _ _ => rfl) hnw)

theorem ganttTStep_change (margin : Rat) (p : TS) (f : Nat) (R W : List Iv) (t : Nat) (st : TS)
    (h : st ≠ p) :
    ganttTStep margin ⟨p, some f, R, W⟩ t st =
      ⟨st, some t, if p = .ready then R ++ [ivEnded f t margin] else R,
        if p = .working then W ++ [ivEnded f t margin] else W⟩ := by
  cases p <;> cases st <;> first | rfl | exact absurd rfl h

theorem ganttCStep_change (margin : Rat) (p : CS) (f : Nat) (R W : List Iv) (t : Nat) (st : CS)
    (h : st ≠ p) :
    ganttCStep margin ⟨p, some f, R, W⟩ t st =
      ⟨st, some t, if p = .ready then R ++ [ivEnded f t margin] else R,
        if p = .working then W ++ [ivEnded f t margin] else W⟩ := by
  cases p <;> cases st <;> first | rfl | exact absurd rfl h

/-- `hsame`: the guard `st ≠ g.prev` of the step fails; `hskip`, `hopen`: before the first run the
loop state is `⟨NONE, none, [], []⟩`, which NONE leaves alone and every other value leaves with a
run opened and nothing emitted -/
theorem ganttT_eq_runs (log : List TS) (margin : Rat) :
    ganttT log margin =
      ((runsOf .ready log).map (enc margin), (runsOf .working log).map (enc margin)) :=
  gantt2_eq_runs (loop := ganttTLoop margin) (step := ganttTStep margin)
    (hrw := by decide) (hnr := by decide) (hnw := by decide)
    (hnil := fun _ _ => rfl) (hcons := fun _ _ _ _ => rfl)
    (hsame := fun _ _ _ _ _ => if_neg (· rfl)) (hchange := ganttTStep_change margin)
    (hskip := fun _ => rfl)
    (hopen := fun _ st h => by cases st <;> first | rfl | exact absurd rfl h) log

theorem ganttC_eq_runs (log : List CS) (margin : Rat) :
    ganttC log margin =
      ((runsOf .ready log).map (enc margin), (runsOf .working log).map (enc margin)) :=
  gantt2_eq_runs (loop := ganttCLoop margin) (step := ganttCStep margin)
    (hrw := by decide) (hnr := by decide) (hnw := by decide)
    (hnil := fun _ _ => rfl) (hcons := fun _ _ _ _ => rfl)
    (hsame := fun _ _ _ _ _ => if_neg (· rfl)) (hchange := ganttCStep_change margin)
    (hskip := fun _ => rfl)
    (hopen := fun _ st h => by cases st <;> first | rfl | exact absurd rfl h) log

def emit3 (a : List Iv × List Iv × List Iv) (p : RS) (iv : Iv) : List Iv × List Iv × List Iv :=
  (if p = .free then a.1 ++ [iv] else a.1, if p = .working then a.2.1 ++ [iv] else a.2.1,
    if p = .absence then a.2.2 ++ [iv] else a.2.2)

/-- the code after the loop of `ganttR`: `ganttR log margin` is
`finR margin (ganttRLoop margin ⟨none, none, [], [], []⟩ 0 log) log.length` by `rfl` -/
def finR (margin : Rat) (g : GR) (len : Nat) : List Iv × List Iv × List Iv :=
  match g.frm, g.prev with
  | some f, some s =>
    let iv : Iv := (f, (((len - 1 - f : Nat) : Rat)) + margin)
    let g' := g.emit s iv
    (g'.ready, g'.working, g'.absence)
  | _, _ => (g.ready, g.working, g.absence)

theorem ganttRStep_change (margin : Rat) (p : RS) (f : Nat) (a : List Iv × List Iv × List Iv)
    (t : Nat) (st : RS) (h : st ≠ p) :
    ganttRStep margin ⟨some p, some f, a.1, a.2.1, a.2.2⟩ t st =
      ⟨some st, some t, (emit3 a p (ivEnded f t margin)).1, (emit3 a p (ivEnded f t margin)).2.1,
        (emit3 a p (ivEnded f t margin)).2.2⟩ := by
  cases p <;> cases st <;> first | rfl | exact absurd rfl h

theorem ganttR_eq_runs (log : List RS) (margin : Rat) :
    ganttR log margin =
      ((runsOf .free log).map (enc margin), (runsOf .working log).map (enc margin),
       (runsOf .absence log).map (enc margin)) := by
  -- the loop state before the first entry is `idle`; no value is skipped, every one opens a run
  have key := fun (o : List Iv × List Iv × List Iv → List Iv) (v : RS) ho =>
    encoder_runs (o := o) (v := v) (emit := emit3) (a0 := ([], [], [])) (fin := finR margin)
      (loop := ganttRLoop margin) (idle := ⟨Option.none, Option.none, [], [], []⟩)
      (run := fun p f a => ⟨some p, some f, a.1, a.2.1, a.2.2⟩) (fun _ _ => rfl) (fun _ _ _ _ => rfl)
      (fun _ _ _ _ => if_neg (· rfl)) (ganttRStep_change margin)
      (fun p f a len => by cases p <;> rfl) ho
      (fun t st => Or.inr rfl) (fun _ => rfl) log 0
  exact Prod.ext (key (·.1) .free fun _ _ _ => rfl)
    (Prod.ext (key (·.2.1) .working fun _ _ _ => rfl) (key (·.2.2) .absence fun _ _ _ => rfl))

/-- the plotly row of a run `(a, n)`: starts at step `a`, ends `(n − 1) + margin` steps later -/
def rowOf (init unit margin : Rat) (r : Nat × Nat) : Rat × Rat :=
  (init + (r.1 : Rat) * unit, init + ((r.1 : Rat) + ((r.2 - 1 : Nat) : Rat) + margin) * unit)

theorem plotlyRow_enc (init unit margin : Rat) (r : Nat × Nat) :
    plotlyRow init unit (enc margin r) = rowOf init unit margin r := by
  simp [plotlyRow, enc, rowOf, Rat.add_assoc]

theorem rowOf_span (init unit : Rat) (r : Nat × Nat) (h : 1 ≤ r.2) :
    (rowOf init unit 1 r).2 - (rowOf init unit 1 r).1 = (r.2 : Rat) * unit := by
  obtain ⟨a, n⟩ := r
  obtain ⟨m, rfl⟩ : ∃ m, n = m + 1 := ⟨n - 1, by simp at h; omega⟩
  -- `(init + (a + m + 1)·unit) − (init + a·unit) = (m + 1)·unit`: ring arithmetic in `Rat`
  simp [rowOf]
  grind

theorem mem_extractIdx (n : Nat) (log : Nat → List σ) (times : List Nat)
    (st : σ) (i : Nat) :
    i ∈ extractIdx n log times st ↔ i < n ∧ ∀ k ∈ times, (log i)[k]? = some st := by
  simp only [extractIdx, List.mem_filter, List.mem_range, List.all_eq_true, Bool.and_eq_true,
    decide_eq_true_eq]
  -- the bound the code tests first follows from the entry being there
  exact and_congr_right fun _ => forall₂_congr fun k _ =>
    and_iff_right_of_imp fun h => (List.getElem?_eq_some_iff.1 h).1

theorem extractIdx_nodup (n : Nat) (log : Nat → List σ) (times : List Nat)
    (st : σ) : (extractIdx n log times st).Nodup :=
  List.Pairwise.filter _ List.nodup_range

end PDesy.Runs
