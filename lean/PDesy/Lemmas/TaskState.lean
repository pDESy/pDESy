/-
  PDesy.Lemmas.TaskState — vectors of task states `Nat → TS`, before any phase is looked at: the
  order `Mono`, the two gates as propositions, the one lemma through which every phase keeps
  `DepInv` (`DepInv_step`), what the task-state log shows of a state (`showT`, `ShownDep`), and
  the moves NONE → READY (`Idem.NR`) and READY → WORKING (`Perform.Start`), each in the
  namespace of the file that reasons with it most.
-/
import PDesy.Lemmas.Defs

namespace PDesy
namespace Lifecycle

theorem Mono.refl (ts : Nat → TS) : Mono ts ts := fun _ => Nat.le_refl _

theorem Mono.trans {a b c : Nat → TS} (h1 : Mono a b) (h2 : Mono b c) : Mono a c :=
  fun t => Nat.le_trans (h1 t) (h2 t)

theorem rank_le_finished (s : TS) : s.rank ≤ TS.finished.rank := by cases s <;> decide

theorem Mono.of_cases {a b : Nat → TS} (h : ∀ t, b t = a t ∨ (a t).rank ≤ (b t).rank) : Mono a b :=
  fun t => (h t).elim (fun e => e ▸ Nat.le_refl _) id

/-! FINISHED, started and not-NONE are thresholds on the rank, hence upward closed. -/

theorem finished_iff_rank (s : TS) : s = .finished ↔ 3 ≤ s.rank := by cases s <;> decide
theorem started_iff_rank (s : TS) : s.started = true ↔ 2 ≤ s.rank := by cases s <;> decide
theorem ne_none_iff_rank (s : TS) : s ≠ .none ↔ 1 ≤ s.rank := by cases s <;> decide

theorem Mono.finished {a b : Nat → TS} (h : Mono a b) {t : Nat} (hf : a t = .finished) :
    b t = .finished :=
  (finished_iff_rank _).mpr (Nat.le_trans ((finished_iff_rank _).mp hf) (h t))

theorem Mono.started {a b : Nat → TS} (h : Mono a b) {t : Nat} (hf : (a t).started = true) :
    (b t).started = true :=
  (started_iff_rank _).mpr (Nat.le_trans ((started_iff_rank _).mp hf) (h t))

theorem Mono.ne_none {a b : Nat → TS} (h : Mono a b) {t : Nat} (hf : a t ≠ .none) :
    b t ≠ .none :=
  (ne_none_iff_rank _).mpr (Nat.le_trans ((ne_none_iff_rank _).mp hf) (h t))

section gates
variable (m : Model)

/-! The two gates differ in the dependency types they read (FS / SS against FF / SF) and in nothing
else: every `finishGate_…` below is proved word for word as its `readyGate_…`. -/

theorem readyGate_iff (ts : Nat → TS) (t : Nat) :
    readyGate m ts t = true ↔ ∀ e ∈ (m.task t).inputs,
      (e.2 = .fs → ts e.1 = .finished) ∧ (e.2 = .ss → (ts e.1).started = true) := by
  unfold readyGate
  rw [List.all_eq_true]
  refine forall_congr' fun e => forall_congr' fun _ => ?_
  obtain ⟨p, d⟩ := e
  cases d <;> simp

theorem finishGate_iff (ts : Nat → TS) (t : Nat) :
    finishGate m ts t = true ↔ ∀ e ∈ (m.task t).inputs,
      (e.2 = .ff → ts e.1 = .finished) ∧ (e.2 = .sf → (ts e.1).started = true) := by
  unfold finishGate
  rw [List.all_eq_true]
  refine forall_congr' fun e => forall_congr' fun _ => ?_
  obtain ⟨p, d⟩ := e
  cases d <;> simp

theorem readyGate_mono {a b : Nat → TS} (h : Mono a b) (t : Nat) (hg : readyGate m a t = true) :
    readyGate m b t = true := by
  rw [readyGate_iff] at hg ⊢
  intro e he
  exact ⟨fun hd => Mono.finished h ((hg e he).1 hd), fun hd => Mono.started h ((hg e he).2 hd)⟩

theorem finishGate_mono {a b : Nat → TS} (h : Mono a b) (t : Nat) (hg : finishGate m a t = true) :
    finishGate m b t = true := by
  rw [finishGate_iff] at hg ⊢
  intro e he
  exact ⟨fun hd => Mono.finished h ((hg e he).1 hd), fun hd => Mono.started h ((hg e he).2 hd)⟩

/-- the gates only test "FINISHED" and "started" -/
theorem readyGate_congr {a b : Nat → TS}
    (h : ∀ t, (b t = .finished ↔ a t = .finished) ∧ (b t).started = (a t).started) (t : Nat) :
    readyGate m b t = readyGate m a t := by
  rw [Bool.eq_iff_iff, readyGate_iff, readyGate_iff]
  refine forall_congr' fun e => forall_congr' fun _ => ?_
  rw [(h e.1).1, (h e.1).2]

theorem finishGate_congr {a b : Nat → TS}
    (h : ∀ t, (b t = .finished ↔ a t = .finished) ∧ (b t).started = (a t).started) (t : Nat) :
    finishGate m b t = finishGate m a t := by
  rw [Bool.eq_iff_iff, finishGate_iff, finishGate_iff]
  refine forall_congr' fun e => forall_congr' fun _ => ?_
  rw [(h e.1).1, (h e.1).2]

theorem finishGate_of_inputs (ts : Nat → TS) (t : Nat)
    (h : ∀ e ∈ (m.task t).inputs, e.2 = .fs ∨ e.2 = .ss) : finishGate m ts t = true := by
  rw [finishGate_iff]
  intro e he
  rcases h e he with h | h <;> simp [h]

instance (t : Nat) : Decidable (exempt m t) := by unfold exempt; infer_instance

theorem depInv_iff (ts : Nat → TS) :
    DepInv m ts ↔ ∀ t, t < m.nT → ¬ exempt m t →
      (ts t ≠ .none → readyGate m ts t = true) ∧ (ts t = .finished → finishGate m ts t = true) := by
  unfold DepInv
  simp only [readyGate_iff, finishGate_iff]

/-- The gates are read in the result `ts'`; by `readyGate_mono` / `finishGate_mono` an open gate
in any state that `ts'` dominates will do. -/
theorem DepInv_step {ts ts' : Nat → TS} (h : DepInv m ts) (hm : Mono ts ts')
    (hr : ∀ t, t < m.nT → ts t = .none → ts' t ≠ .none → readyGate m ts' t = true)
    (hf : ∀ t, t < m.nT → ts t ≠ .finished → ts' t = .finished → finishGate m ts' t = true) :
    DepInv m ts' := by
  rw [depInv_iff] at h ⊢
  intro t ht hex
  obtain ⟨h1, h2⟩ := h t ht hex
  constructor
  · intro hne
    by_cases h0 : ts t = .none
    · exact hr t ht h0 hne
    · exact readyGate_mono m hm t (h1 h0)
  · intro hfin
    by_cases h0 : ts t = .finished
    · exact finishGate_mono m hm t (h2 h0)
    · exact hf t ht h0 hfin

end gates

/-! What the task-state log shows of a state (`showT`): FINISHED and NONE as they are, WORKING as
READY on an absence step. -/

/-- "started" as far as a logged state tells: on an absence step READY may stand for WORKING -/
def shownStarted (working : Bool) (x : TS) : Prop :=
  x = .working ∨ x = .finished ∨ (working = false ∧ x = .ready)

theorem showT_finished_iff (w : Bool) (s : TS) : showT w s = .finished ↔ s = .finished := by
  cases w <;> cases s <;> decide

theorem showT_none_iff (w : Bool) (s : TS) : showT w s = .none ↔ s = .none := by
  cases w <;> cases s <;> decide

theorem showT_ne (w : Bool) (s : TS) (h : showT w s ≠ s) :
    w = false ∧ s = .working ∧ showT w s = .ready := by
  cases w <;> cases s <;> simp_all [showT]

theorem showT_started (w : Bool) (s : TS) (h : s.started = true) : shownStarted w (showT w s) := by
  cases w <;> cases s <;> simp_all [showT, shownStarted, TS.started]

/-- `DepInv` as far as it can be read off one logged row of task states (`working`: the step was a
working step) -/
def ShownDep (m : Model) (working : Bool) (row : Nat → TS) : Prop :=
  ∀ t, t < m.nT → ¬ exempt m t →
    (row t ≠ .none → ∀ e ∈ (m.task t).inputs,
        (e.2 = .fs → row e.1 = .finished) ∧ (e.2 = .ss → shownStarted working (row e.1))) ∧
    (row t = .finished → ∀ e ∈ (m.task t).inputs,
        (e.2 = .ff → row e.1 = .finished) ∧ (e.2 = .sf → shownStarted working (row e.1)))

theorem ShownDep.of_depInv {m : Model} (w : Bool) {ts : Nat → TS} (h : DepInv m ts) :
    ShownDep m w fun t => showT w (ts t) := by
  intro t ht hex
  -- a clause about the live state of a predecessor, read off its shown state
  have shown : ∀ {e : Nat × Dep} {d1 d2 : Dep},
      (e.2 = d1 → ts e.1 = .finished) ∧ (e.2 = d2 → (ts e.1).started = true) →
      (e.2 = d1 → showT w (ts e.1) = .finished) ∧ (e.2 = d2 → shownStarted w (showT w (ts e.1))) :=
    fun h => ⟨fun hd => (showT_finished_iff w _).mpr (h.1 hd), fun hd => showT_started w _ (h.2 hd)⟩
  exact ⟨fun hne e he => shown ((h t ht hex).1 (mt (showT_none_iff w _).mpr hne) e he),
    fun hf e he => shown ((h t ht hex).2 ((showT_finished_iff w _).mp hf) e he)⟩

end Lifecycle

namespace Idem
open Lifecycle

/-- `ts'` differs from `ts` only by NONE → READY -/
def NR (ts ts' : Nat → TS) : Prop := ∀ t, ts' t = ts t ∨ (ts t = .none ∧ ts' t = .ready)

theorem NR.refl (ts : Nat → TS) : NR ts ts := fun _ => Or.inl rfl

theorem NR.congr {ts ts' : Nat → TS} (h : NR ts ts') {α : Type} (f : TS → α)
    (hf : f .ready = f .none) (t : Nat) : f (ts' t) = f (ts t) := by
  rcases h t with e | ⟨e1, e2⟩
  · rw [e]
  · rw [e1, e2, hf]

theorem NR.finished {ts ts' : Nat → TS} (h : NR ts ts') (t : Nat) :
    (ts' t == .finished) = (ts t == .finished) := h.congr (· == .finished) rfl t

theorem NR.working {ts ts' : Nat → TS} (h : NR ts ts') (t : Nat) :
    (ts' t == .working) = (ts t == .working) := h.congr (· == .working) rfl t

theorem NR.started {ts ts' : Nat → TS} (h : NR ts ts') (t : Nat) :
    (ts' t).started = (ts t).started := h.congr TS.started rfl t

/-- the hypothesis of `readyGate_congr` and `finishGate_congr` -/
theorem NR.gates {ts ts' : Nat → TS} (h : NR ts ts') (t : Nat) :
    (ts' t = .finished ↔ ts t = .finished) ∧ (ts' t).started = (ts t).started :=
  ⟨by rw [← beq_iff_eq, h.finished t, beq_iff_eq], h.started t⟩

theorem NR.mono {ts ts' : Nat → TS} (h : NR ts ts') : Mono ts ts' :=
  Mono.of_cases fun t => (h t).imp_right fun ⟨e, e'⟩ => by rw [e, e']; decide

end Idem

namespace Perform
open Lifecycle

/-- `b` arises from `a` by starting READY tasks -/
def Start (a b : Nat → TS) : Prop := ∀ t, b t = a t ∨ (a t = .ready ∧ b t = .working)

theorem Start.refl (a : Nat → TS) : Start a a := fun _ => Or.inl rfl

theorem Start.finished_iff {a b : Nat → TS} (h : Start a b) (t : Nat) :
    b t = .finished ↔ a t = .finished := by
  rcases h t with h | ⟨h, h'⟩
  · rw [h]
  · rw [h, h']; simp

theorem Start.working {a b : Nat → TS} (h : Start a b) {t : Nat} (ha : a t = .working) :
    b t = .working := by
  rcases h t with h | ⟨h, h'⟩
  · rw [h]; exact ha
  · exact h'

theorem Start.open_iff {a b : Nat → TS} (h : Start a b) (t : Nat) :
    (b t = .ready ∨ b t = .working) ↔ (a t = .ready ∨ a t = .working) := by
  rcases h t with e | ⟨e, e'⟩
  · rw [e]
  · rw [e, e']; simp

theorem Start.mono {a b : Nat → TS} (h : Start a b) : Mono a b :=
  Mono.of_cases fun t => (h t).imp_right fun ⟨e, e'⟩ => by rw [e, e']; decide

/-- no task leaves NONE and none becomes FINISHED, so neither gate has to be looked at -/
theorem Start.depInv {m : Model} {a b : Nat → TS} (h : Start a b) (hd : DepInv m a) :
    DepInv m b := by
  refine DepInv_step m hd h.mono (fun t _ h0 hne => ?_) (fun t _ h0 hf => ?_)
  · rcases h t with e | ⟨e, _⟩
    · exact absurd (e.trans h0) hne
    · rw [h0] at e; cases e
  · exact absurd ((h.finished_iff t).mp hf) h0

end Perform

/-! Nothing in the library rests on what follows; the names are end results of the development and
stay. -/

namespace Lifecycle
variable (m : Model)

theorem showT_working (s : TS) : showT true s = s := by simp [showT]

theorem Mono.of_eq {a b : Nat → TS} (h : b = a) : Mono a b := h ▸ Mono.refl a

theorem DepInv_of_eq {ts ts' : Nat → TS} (h : DepInv m ts) (he : ts' = ts) : DepInv m ts' :=
  he ▸ h

end Lifecycle

namespace Perform

theorem Start.trans {a b c : Nat → TS} (h1 : Start a b) (h2 : Start b c) : Start a c := by
  intro t
  rcases h1 t with h1 | ⟨h1, h1'⟩ <;> rcases h2 t with h2 | ⟨h2, h2'⟩
  · left; rw [h2, h1]
  · right; exact ⟨h1 ▸ h2, h2'⟩
  · right; exact ⟨h1, h2 ▸ h1'⟩
  · rw [h1'] at h2; cases h2

theorem Start.ready {a b : Nat → TS} (h : Start a b) {t : Nat} (hb : b t = .ready) :
    a t = .ready := by
  rcases h t with h | ⟨h, h'⟩
  · rw [← h]; exact hb
  · exact h

end Perform
end PDesy
