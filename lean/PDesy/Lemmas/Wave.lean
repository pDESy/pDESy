/-
  PDesy.Lemmas.Wave — the wave-front loop of `update_PERT_data`, once for both passes and for
  every visiting order of the waves.

  The loop `wLoop ord out tgt step` is a fold of `step` over the list `evs ord out tgt` of
  relaxation events, and that list depends on the graph and on `ord` only.  So a fact about a pass
  is a fact about `List.foldl` plus a fact about the event list.
-/
import PDesy.Model.Phases

namespace PDesy.Order

/-- `ord` lists exactly the members of its argument that are tasks of the model (any order, any
multiplicity): what iterating over a Python `set` built from that list does -/
def OrdOK (n : Nat) (ord : List Nat → List Nat) : Prop :=
  ∀ xs x, x ∈ ord xs ↔ x < n ∧ x ∈ xs

theorem ordOK_canon (n : Nat) : OrdOK n (canonSet n) := fun xs x => by
  simp [canonSet, List.mem_filter, List.mem_range]

end PDesy.Order

namespace PDesy.Wave
open Order

section
variable {σ τ ε : Type}

theorem foldl_rel (S : σ → τ → Prop) (f : σ → ε → σ) (g : τ → ε → τ) (P : ε → Prop)
    (h : ∀ s t e, P e → S s t → S (f s e) (g t e)) :
    ∀ (es : List ε), (∀ e ∈ es, P e) → ∀ s t, S s t → S (es.foldl f s) (es.foldl g t) := by
  intro es
  induction es with
  | nil => intro _ s t h0; exact h0
  | cons e es ih =>
    intro hP s t h0
    exact ih (fun x hx => hP x (List.mem_cons_of_mem _ hx)) _ _ (h s t e (hP e List.mem_cons_self) h0)

/-- the relaxations of one wave, in execution order -/
def wavePairs (out : Nat → List ε) (W : List Nat) : List (Nat × ε) :=
  W.flatMap fun i => (out i).map fun e => (i, e)

theorem foldl_pairs (out : Nat → List ε) (f : σ → Nat → ε → σ) (W : List Nat) (s : σ) :
    W.foldl (fun acc i => (out i).foldl (fun a e => f a i e) acc) s =
      (wavePairs out W).foldl (fun a q => f a q.1 q.2) s := by
  induction W generalizing s with
  | nil => rfl
  | cons i W ih =>
    rw [wavePairs, List.foldl_cons, List.flatMap_cons, List.foldl_append, List.foldl_map]
    exact ih _

/-- the source of every event of `es` is good (`G`) or the target of an earlier event -/
def Sourced (src tgt : ε → Nat) (G : Nat → Prop) (es : List ε) : Prop :=
  ∀ pre e post, es = pre ++ e :: post → G (src e) ∨ ∃ e' ∈ pre, tgt e' = src e

/-- after any event into a task, every event of `es` out of that task occurs (again) -/
def Recurs (src tgt : ε → Nat) (es : List ε) : Prop :=
  ∀ pre e post, es = pre ++ e :: post → ∀ e' ∈ es, src e' = tgt e → e' ∈ post

section
variable {src tgt : ε → Nat} {G G' : Nat → Prop} {e : ε} {es : List ε}

theorem Sourced.head (h : Sourced src tgt G (e :: es)) : G (src e) :=
  (h [] e es rfl).elim id fun ⟨_, h, _⟩ => nomatch h

theorem Sourced.mono (h : Sourced src tgt G es) (hG : ∀ x, G x → G' x) : Sourced src tgt G' es :=
  fun pre e post hs => (h pre e post hs).imp_left (hG _)

theorem Sourced.tail (hs : Sourced src tgt G (e :: es)) (hG : ∀ x, G x → G' x) (ht : G' (tgt e)) :
    Sourced src tgt G' es := by
  intro pre e2 post hes
  rcases hs (e :: pre) e2 post (by rw [hes]; rfl) with h | ⟨e', he', h⟩
  · exact Or.inl (hG _ h)
  · rcases List.mem_cons.1 he' with rfl | he'
    · exact Or.inl (h ▸ ht)
    · exact Or.inr ⟨e', he', h⟩

theorem Recurs.tail (h : Recurs src tgt (e :: es)) : Recurs src tgt es :=
  fun pre e2 post hs e' he' =>
    h (e :: pre) e2 post (by rw [hs]; rfl) e' (List.mem_cons_of_mem _ he')

theorem Recurs.src_final (h : Recurs src tgt (e :: es)) (hin : e ∉ es) :
    ∀ e2 ∈ es, tgt e2 ≠ src e := by
  intro e2 he2 heq
  obtain ⟨pre, post, hs⟩ := List.append_of_mem he2
  exact hin (hs ▸ List.mem_append_right _ (List.mem_cons_of_mem _
    (h (e :: pre) e2 post (by rw [hs]; rfl) e List.mem_cons_self heq.symm)))

end

/-- **one fold, threaded.**  `S` is an invariant and `Gd s x` says that `x` is good at `s`; a step
from a good source preserves `S`, makes its target good, keeps good what is good, does not lower
the value `val` of a good `x` and changes `val` at its target only.  If the source of every event
is good at the start or the target of an earlier event, the fold ends in `S`, every target is
good, good stays good and does not go down, and `val` is unchanged where no event leads. -/
theorem foldl_thread (src tgt : ε → Nat) (S : σ → Prop) (Gd : σ → Nat → Prop) (f : σ → ε → σ)
    (P : ε → Prop) (val : σ → Nat → Rat)
    (h : ∀ s e, P e → S s → Gd s (src e) →
      S (f s e) ∧ Gd (f s e) (tgt e) ∧ (∀ x, Gd s x → Gd (f s e) x ∧ val s x ≤ val (f s e) x) ∧
      ∀ x, x ≠ tgt e → val (f s e) x = val s x) :
    ∀ (es : List ε), (∀ e ∈ es, P e) → ∀ s, S s → Sourced src tgt (Gd s) es →
      S (es.foldl f s) ∧ (∀ e ∈ es, Gd (es.foldl f s) (tgt e)) ∧
      (∀ x, Gd s x → Gd (es.foldl f s) x ∧ val s x ≤ val (es.foldl f s) x) ∧
      ∀ x, (∀ e ∈ es, tgt e ≠ x) → val (es.foldl f s) x = val s x := by
  intro es
  induction es with
  | nil => intro _ s h0 _; exact ⟨h0, fun _ h => (nomatch h), fun _ h => ⟨h, Rat.le_refl⟩, fun _ _ => rfl⟩
  | cons e es ih =>
    intro hP s h0 hsrc
    obtain ⟨s1, g1, k1, o1⟩ := h s e (hP e List.mem_cons_self) h0 hsrc.head
    obtain ⟨s2, g2, k2, o2⟩ := ih (fun x hx => hP x (List.mem_cons_of_mem _ hx)) _ s1
      (hsrc.tail (fun x hx => (k1 x hx).1) g1)
    refine ⟨s2, ?_, fun x hx => ⟨(k2 x (k1 x hx).1).1, Rat.le_trans (k1 x hx).2 (k2 x (k1 x hx).1).2⟩,
      fun x hx => ?_⟩
    · intro x hx
      rcases List.mem_cons.1 hx with rfl | hx
      · exact (k2 _ g1).1
      · exact g2 x hx
    · rw [List.foldl_cons, o2 x fun e' he' => hx e' (List.mem_cons_of_mem _ he'),
        o1 x (Ne.symm (hx e List.mem_cons_self))]

/-- **the final values satisfy every edge inequality.**  In the situation of `foldl_thread`, let
`c s e` be what the event `e` proposes at `s` for its target; it reads `val` of the source only and
is a lower bound of `val` at the target after the step.  If after any event into a task every
event out of it occurs again, then at the end (besides what `foldl_thread` says) every event
proposes, from the FINAL value of its source, at most the final value of its target. -/
theorem foldl_edge (src tgt : ε → Nat) (S : σ → Prop) (Gd : σ → Nat → Prop) (f : σ → ε → σ)
    (P : ε → Prop) (val : σ → Nat → Rat) (c : σ → ε → Rat)
    (h : ∀ s e, P e → S s → Gd s (src e) →
      (S (f s e) ∧ Gd (f s e) (tgt e) ∧ (∀ x, Gd s x → Gd (f s e) x ∧ val s x ≤ val (f s e) x) ∧
        ∀ x, x ≠ tgt e → val (f s e) x = val s x) ∧ c s e ≤ val (f s e) (tgt e))
    (hc : ∀ s s' e, val s' (src e) = val s (src e) → c s' e = c s e) :
    ∀ (es : List ε), (∀ e ∈ es, P e ∧ src e ≠ tgt e) → Recurs src tgt es →
      ∀ s, S s → Sourced src tgt (Gd s) es →
      (S (es.foldl f s) ∧ (∀ e ∈ es, Gd (es.foldl f s) (tgt e)) ∧
        (∀ x, Gd s x → Gd (es.foldl f s) x ∧ val s x ≤ val (es.foldl f s) x) ∧
        ∀ x, (∀ e ∈ es, tgt e ≠ x) → val (es.foldl f s) x = val s x) ∧
      ∀ e ∈ es, c (es.foldl f s) e ≤ val (es.foldl f s) (tgt e) := by
  have thread := foldl_thread src tgt S Gd f P val fun s e he hS hG => (h s e he hS hG).1
  intro es hP hss s h0 hsrc
  refine ⟨thread es (fun x hx => (hP x hx).1) s h0 hsrc, ?_⟩
  induction es generalizing s with
  | nil => intro e he; exact nomatch he
  | cons e0 rest ih =>
    intro e he
    obtain ⟨⟨s1, g1, k1, o1⟩, hpost⟩ := h s e0 (hP e0 List.mem_cons_self).1 h0 hsrc.head
    have hsrc1 := hsrc.tail (fun x hx => (k1 x hx).1) g1
    have hPr : ∀ x ∈ rest, P x ∧ src x ≠ tgt x := fun x hx => hP x (List.mem_cons_of_mem _ hx)
    rw [List.foldl_cons]
    by_cases hin : e ∈ rest
    · exact ih hPr hss.tail _ s1 hsrc1 e hin
    · obtain rfl : e = e0 := (List.mem_cons.1 he).resolve_right hin
      -- no later event leads into the source: its value is final
      obtain ⟨_, _, k2, o2⟩ := thread rest (fun x hx => (hPr x hx).1) _ s1 hsrc1
      rw [hc s _ e ((o2 _ (hss.src_final hin)).trans (o1 _ (hP e List.mem_cons_self).2))]
      exact Rat.le_trans hpost (k2 _ g1).2

/-- the wave-front loop: relax every link `e ∈ out i` of every `i` of the wave, go on with the
targets in the order `ord` gives them, stop at an empty wave or when the fuel is used up -/
def wLoop (ord : List Nat → List Nat) (out : Nat → List ε) (tgt : ε → Nat) (step : σ → Nat → ε → σ) :
    Nat → List Nat → σ → σ
  | 0, _, s => s
  | fuel + 1, W, s =>
    if W.isEmpty then s
    else wLoop ord out tgt step fuel (ord (W.flatMap fun i => (out i).map tgt))
      (W.foldl (fun acc i => (out i).foldl (fun a e => step a i e) acc) s)

/-- all relaxations of the loop, in execution order: they depend on the graph and `ord` only -/
def evs (ord : List Nat → List Nat) (out : Nat → List ε) (tgt : ε → Nat) : Nat → List Nat → List (Nat × ε)
  | 0, _ => []
  | fuel + 1, W =>
    if W.isEmpty then []
    else wavePairs out W ++ evs ord out tgt fuel (ord (W.flatMap fun i => (out i).map tgt))

variable {ord : List Nat → List Nat} {out : Nat → List ε} {tgt : ε → Nat}

theorem wLoop_fold (step : σ → Nat → ε → σ) : ∀ (fuel : Nat) (W : List Nat) (s : σ),
    wLoop ord out tgt step fuel W s = (evs ord out tgt fuel W).foldl (fun a q => step a q.1 q.2) s := by
  intro fuel
  induction fuel with
  | zero => intro W s; rfl
  | succ n ih =>
    intro W s
    simp only [wLoop, evs]
    split
    · rfl
    · rw [List.foldl_append, ih, foldl_pairs]

theorem wLoop_unique (step : σ → Nat → ε → σ) (F : Nat → List Nat → σ → σ) (h0 : ∀ W s, F 0 W s = s)
    (hs : ∀ k W s, F (k + 1) W s = if W.isEmpty then s else
      F k (ord (W.flatMap fun i => (out i).map tgt))
        (W.foldl (fun acc i => (out i).foldl (fun a e => step a i e) acc) s)) :
    ∀ fuel W s, F fuel W s = wLoop ord out tgt step fuel W s := by
  intro fuel
  induction fuel with
  | zero => exact h0
  | succ k ih => intro W s; rw [hs, wLoop, ih]

theorem mem_wavePairs {W : List Nat} {q : Nat × ε} : q ∈ wavePairs out W ↔ q.1 ∈ W ∧ q.2 ∈ out q.1 := by
  obtain ⟨a, b⟩ := q
  simp only [wavePairs, List.mem_flatMap, List.mem_map, Prod.mk.injEq]
  constructor
  · rintro ⟨i, hi, e, he, rfl, rfl⟩; exact ⟨hi, he⟩
  · rintro ⟨h1, h2⟩; exact ⟨a, h1, b, h2, rfl, rfl⟩

theorem mem_evs_wave {fuel : Nat} {W : List Nat} {i : Nat} {e : ε} (hf : 0 < fuel) (hi : i ∈ W)
    (he : e ∈ out i) : (i, e) ∈ evs ord out tgt fuel W := by
  cases fuel with
  | zero => exact absurd hf (Nat.lt_irrefl 0)
  | succ f =>
    rw [evs, if_neg fun h => List.ne_nil_of_mem hi (List.isEmpty_iff.1 h)]
    exact List.mem_append_left _ (mem_wavePairs.2 ⟨hi, he⟩)

theorem mem_next {n : Nat} (ho : OrdOK n ord) {W : List Nat} {x : Nat} :
    x ∈ ord (W.flatMap fun i => (out i).map tgt) ↔ x < n ∧ ∃ i ∈ W, ∃ e ∈ out i, tgt e = x := by
  rw [ho]; simp only [List.mem_flatMap, List.mem_map]

theorem of_mem_evs {n : Nat} (ho : OrdOK n ord) : ∀ (fuel : Nat) (W : List Nat), (∀ i ∈ W, i < n) →
    ∀ q ∈ evs ord out tgt fuel W, q.1 < n ∧ q.2 ∈ out q.1 := by
  intro fuel
  induction fuel with
  | zero => intro W _ q h; exact nomatch h
  | succ k ih =>
    intro W hW q h
    simp only [evs] at h
    split at h
    · exact nomatch h
    · rcases List.mem_append.1 h with h | h
      · exact ⟨hW _ (mem_wavePairs.1 h).1, (mem_wavePairs.1 h).2⟩
      · exact ih _ (fun i hi => ((mem_next ho).1 hi).1) q h

theorem append_eq_mid {α : Type} {a b pre post : List α} {q : α} (h : a ++ b = pre ++ q :: post) :
    (∃ c, a = pre ++ q :: c ∧ post = c ++ b) ∨ ∃ a', pre = a ++ a' ∧ b = a' ++ q :: post := by
  rcases List.append_eq_append_iff.1 h with ⟨a', h1, h2⟩ | ⟨c', h1, h2⟩
  · exact Or.inr ⟨a', h1, h2⟩
  · cases c' with
    | nil => exact Or.inr ⟨[], by simpa using h1.symm, by simpa using h2.symm⟩
    | cons c cs =>
      obtain ⟨rfl, rfl⟩ := List.cons.inj h2
      exact Or.inl ⟨cs, h1, rfl⟩

theorem evs_sourced {n : Nat} (ho : OrdOK n ord) : ∀ (fuel : Nat) (W : List Nat),
    Sourced (·.1) (fun q => tgt q.2) (· ∈ W) (evs ord out tgt fuel W) := by
  intro fuel
  induction fuel with
  | zero => intro W pre q post h; exact nomatch (List.append_eq_nil_iff.1 h.symm).2
  | succ k ih =>
    intro W pre q post h
    simp only [evs] at h
    split at h
    · exact nomatch (List.append_eq_nil_iff.1 h.symm).2
    · rcases append_eq_mid h with ⟨c, hc, -⟩ | ⟨a', ha, h2⟩
      · exact Or.inl (mem_wavePairs.1 (show q ∈ wavePairs out W by rw [hc]; simp)).1
      · -- the event lies in a later wave
        right
        rcases ih _ a' q post h2 with hm | ⟨q', hq', e⟩
        · obtain ⟨_, i, hi, e, he, hq⟩ := (mem_next ho).1 hm
          exact ⟨(i, e), by rw [ha]; exact List.mem_append_left _ (mem_wavePairs.2 ⟨hi, he⟩), hq⟩
        · exact ⟨q', by rw [ha]; exact List.mem_append_right _ hq', e⟩

/-- some rank below `n` increases strictly along every link, and links stay below `n` -/
def Ranked (n : Nat) (out : Nat → List ε) (tgt : ε → Nat) (rk : Nat → Nat) : Prop :=
  ∀ t, t < n → rk t < n ∧ ∀ e ∈ out t, tgt e < n ∧ rk t < rk (tgt e)

theorem Ranked.of_map {n : Nat} {π : ε → Nat} {rk : Nat → Nat}
    (h : Ranked n (fun i => (out i).map π) id rk) : Ranked n out π rk :=
  fun t ht => ⟨(h t ht).1, fun e he => (h t ht).2 (π e) (List.mem_map_of_mem he)⟩

/-- on a ranked graph, after any event into `i` all links of `i` are relaxed (again): `i` is in the
next wave, and there is fuel left for it (a task of rank `r` is visited with more than `n - r` rounds
to go, and ranks are below `n`) -/
theorem evs_after {n : Nat} (ho : OrdOK n ord) {rk : Nat → Nat} (hrk : Ranked n out tgt rk) :
    ∀ (fuel : Nat) (W : List Nat), (∀ i ∈ W, i < n ∧ n + 1 ≤ fuel + rk i) →
    ∀ pre q post, evs ord out tgt fuel W = pre ++ q :: post →
      ∀ e ∈ out (tgt q.2), (tgt q.2, e) ∈ post := by
  intro fuel
  induction fuel with
  | zero => intro W _ pre q post h; exact nomatch (List.append_eq_nil_iff.1 h.symm).2
  | succ f ih =>
    intro W hW pre q post h e he
    simp only [evs] at h
    split at h
    · exact nomatch (List.append_eq_nil_iff.1 h.symm).2
    · rcases append_eq_mid h with ⟨c, h1, rfl⟩ | ⟨a', _, h2⟩
      · -- the event lies in this wave: its target is in the next one, which is not the last
        obtain ⟨hs, ho'⟩ := mem_wavePairs.1 (show q ∈ wavePairs out W by rw [h1]; simp)
        obtain ⟨hs1, hs2⟩ := hW _ hs
        obtain ⟨htl, htr⟩ := (hrk _ hs1).2 _ ho'
        have htb := (hrk _ htl).1
        exact List.mem_append_right _ (mem_evs_wave (by omega)
          ((mem_next ho).2 ⟨htl, q.1, hs, q.2, ho', rfl⟩) he)
      · refine ih _ (fun i hi => ?_) a' q post h2 e he
        obtain ⟨hlt, s, hs, e', he', rfl⟩ := (mem_next ho).1 hi
        obtain ⟨hs1, hs2⟩ := hW s hs
        have := ((hrk s hs1).2 e' he').2
        exact ⟨hlt, by omega⟩

theorem evs_recurs {n : Nat} (ho : OrdOK n ord) {rk : Nat → Nat} (hrk : Ranked n out tgt rk)
    {W : List Nat} (hW : ∀ i ∈ W, i < n) :
    Recurs (·.1) (fun q => tgt q.2) (evs ord out tgt (n + 1) W) := by
  intro pre q post h q' hq' (hs : q'.1 = tgt q.2)
  have := evs_after ho hrk (n + 1) W (fun i hi => ⟨hW i hi, Nat.le_add_right _ _⟩) pre q post h
    q'.2 (hs ▸ (of_mem_evs ho _ W hW q' hq').2)
  rwa [← hs] at this

theorem all_evs {n : Nat} (ho : OrdOK n ord) {rk : Nat → Nat} (hrk : Ranked n out tgt rk)
    {W : List Nat} (hW : ∀ i ∈ W, i < n)
    (hcov : ∀ x, x < n → x ∈ W ∨ ∃ i, i < n ∧ ∃ e ∈ out i, tgt e = x) :
    ∀ i, i < n → ∀ e ∈ out i, (i, e) ∈ evs ord out tgt (n + 1) W := by
  have : ∀ r i, rk i = r → i < n → ∀ e ∈ out i, (i, e) ∈ evs ord out tgt (n + 1) W := by
    intro r
    induction r using Nat.strongRecOn with
    | _ r ih =>
      intro i hr hi e he
      rcases hcov i hi with h0 | ⟨i', hi', e', he', rfl⟩
      · exact mem_evs_wave (Nat.succ_pos n) h0 he
      · -- the link `e'` into `i` is relaxed (lower rank), and after it every link out of `i`
        have hlt := ((hrk i' hi').2 e' he').2
        obtain ⟨pre, post, hs⟩ := List.append_of_mem (ih (rk i') (hr ▸ hlt) i' rfl hi' e' he')
        rw [hs]
        exact List.mem_append_right _ (List.mem_cons_of_mem _
          (evs_after ho hrk (n + 1) W (fun j hj => ⟨hW j hj, Nat.le_add_right _ _⟩) pre _ post hs e he))
  exact fun i => this _ i rfl

/-- Two loops side by side, `S` relating the two states and `G` saying where both are good:
`foldl_thread` for the fold over the pairs of states. -/
theorem wLoop_pair {n : Nat} (ho : OrdOK n ord) (step : σ → Nat → ε → σ) (step' : τ → Nat → ε → τ)
    (S : σ → τ → Prop) (G : σ → τ → Nat → Prop)
    (hstep : ∀ s s' i e, S s s' → i < n → G s s' i → e ∈ out i →
      S (step s i e) (step' s' i e) ∧ G (step s i e) (step' s' i e) (tgt e) ∧
      ∀ t, G s s' t → G (step s i e) (step' s' i e) t)
    (fuel : Nat) (W : List Nat) (s : σ) (s' : τ) (hS : S s s') (hW : ∀ i ∈ W, i < n ∧ G s s' i) :
    S (wLoop ord out tgt step fuel W s) (wLoop ord out tgt step' fuel W s') ∧
    (∀ q ∈ evs ord out tgt fuel W,
      G (wLoop ord out tgt step fuel W s) (wLoop ord out tgt step' fuel W s') (tgt q.2)) ∧
    ∀ t, G s s' t → G (wLoop ord out tgt step fuel W s) (wLoop ord out tgt step' fuel W s') t := by
  have hpair : ∀ (es : List (Nat × ε)) s s',
      es.foldl (fun (p : σ × τ) q => (step p.1 q.1 q.2, step' p.2 q.1 q.2)) (s, s') =
        (es.foldl (fun a q => step a q.1 q.2) s, es.foldl (fun a q => step' a q.1 q.2) s') := fun es => by
    induction es with
    | nil => intro s s'; rfl
    | cons e es ih => intro s s'; exact ih _ _
  have key := foldl_thread (σ := σ × τ) (·.1) (fun q => tgt q.2) (fun p => S p.1 p.2)
    (fun p x => G p.1 p.2 x) (fun p q => (step p.1 q.1 q.2, step' p.2 q.1 q.2))
    (fun q => q.1 < n ∧ q.2 ∈ out q.1) (fun _ _ => 0)  -- no value is followed here
    (fun p q hq hS hG => have h := hstep p.1 p.2 q.1 q.2 hS hq.1 hG hq.2
      ⟨h.1, h.2.1, fun x hx => ⟨h.2.2 x hx, Rat.le_refl⟩, fun _ _ => rfl⟩)
    (evs ord out tgt fuel W) (of_mem_evs ho fuel W fun i hi => (hW i hi).1) (s, s') hS
    ((evs_sourced ho fuel W).mono fun _ h => (hW _ h).2)
  rw [hpair, ← wLoop_fold, ← wLoop_fold] at key
  exact ⟨key.1, key.2.1, fun x hx => (key.2.2.1 x hx).1⟩

theorem wLoop_inv {n : Nat} (ho : OrdOK n ord) (step : σ → Nat → ε → σ) (P : σ → Prop)
    (hstep : ∀ s i e, P s → i < n → e ∈ out i → P (step s i e))
    (fuel : Nat) (W : List Nat) (s : σ) (hs : P s) (hW : ∀ i ∈ W, i < n) :
    P (wLoop ord out tgt step fuel W s) := by
  rw [wLoop_fold]
  exact List.foldlRecOn (motive := P) _ _ hs fun a ha q hq =>
    hstep a q.1 q.2 ha (of_mem_evs ho fuel W hW q hq).1 (of_mem_evs ho fuel W hW q hq).2

theorem wLoop_out {n : Nat} {β : Type} (ho : OrdOK n ord) (step : σ → Nat → ε → σ) (val : σ → Nat → β)
    (hstep : ∀ s i e, i < n → e ∈ out i → tgt e < n ∧ ∀ x, x ≠ tgt e → val (step s i e) x = val s x)
    (fuel : Nat) (W : List Nat) (s : σ) (hW : ∀ i ∈ W, i < n) :
    ∀ x, ¬ x < n → val (wLoop ord out tgt step fuel W s) x = val s x :=
  wLoop_inv ho step (fun q => ∀ x, ¬ x < n → val q x = val s x)
    (fun q i e hq hi he x hx =>
      ((hstep q i e hi he).2 x fun h => hx (h ▸ (hstep q i e hi he).1)).trans (hq x hx))
    fuel W s (fun _ _ => rfl) hW

theorem wLoop_keep {γ : Type} (step : σ → Nat → ε → σ) (π : σ → γ)
    (hstep : ∀ s i e, π (step s i e) = π s) (fuel : Nat) (W : List Nat) (s : σ) :
    π (wLoop ord out tgt step fuel W s) = π s := by
  rw [wLoop_fold]
  exact List.foldlRecOn (motive := fun q => π q = π s) _ _ rfl fun a ha q _ => (hstep a q.1 q.2).trans ha

theorem evs_map (π : ε → Nat) : ∀ (fuel : Nat) (W : List Nat),
    evs ord (fun i => (out i).map π) id fuel W = (evs ord out π fuel W).map fun q => (q.1, π q.2) := by
  intro fuel
  induction fuel with
  | zero => intro W; rfl
  | succ k ih =>
    intro W
    simp only [evs, List.map_map, Function.comp_def, id]
    split
    · rfl
    · rw [List.map_append, ih]
      simp only [wavePairs, List.map_flatMap, List.map_map, Function.comp_def]

/-- a loop over labelled links whose step is, through `φ`, the step of a loop over the bare
targets -/
theorem wLoop_sim {n : Nat} (ho : OrdOK n ord) (φ : σ → τ) (π : ε → Nat) (stepC : τ → Nat → ε → τ)
    (stepA : σ → Nat → Nat → σ)
    (h : ∀ s i e, i < n → e ∈ out i → stepC (φ s) i e = φ (stepA s i (π e)))
    (fuel : Nat) (W : List Nat) (hW : ∀ i ∈ W, i < n) (s : σ) :
    wLoop ord out π stepC fuel W (φ s) =
      φ (wLoop ord (fun i => (out i).map π) id stepA fuel W s) := by
  rw [wLoop_fold, wLoop_fold, evs_map, List.foldl_map]
  exact foldl_rel (fun t s => t = φ s) _ _ (fun q => q.1 < n ∧ q.2 ∈ out q.1)
    (fun t s q hq e => by rw [e]; exact h s q.1 q.2 hq.1 hq.2) _ (of_mem_evs ho fuel W hW) _ _ rfl

end

/-- the links the forward pass follows -/
def outs (m : Model) (i : Nat) : List (Nat × Dep) := (m.task i).outputs
/-- the links the backward pass follows -/
def ins (m : Model) (o : Nat) : List (Nat × Dep) := (m.task o).inputs

theorem mem_heads {m : Model} {t : Nat} : t ∈ heads m ↔ t < m.nT ∧ (m.task t).inputs = [] := by
  simp [heads, List.isEmpty_iff]

theorem mem_tails {m : Model} {t : Nat} : t ∈ tails m ↔ t < m.nT ∧ (m.task t).outputs = [] := by
  simp [tails, List.isEmpty_iff]

theorem heads_lt (m : Model) : ∀ i ∈ heads m, i < m.nT := fun _ hi => (mem_heads.1 hi).1

theorem tails_lt (m : Model) : ∀ i ∈ tails m, i < m.nT := fun _ hi => (mem_tails.1 hi).1

end PDesy.Wave

namespace PDesy.Order
open Wave

/-! `update_PERT_data` with the order in which a wave is visited left open (`ord`).  The loops of
this section and those of the model satisfy the recursion equations of `wLoop`, so they are
instances of it (`wLoop_unique`), and `pert` is `pertOrd` at the order of `task_list`. -/

/-- `nextOf` with the iteration order of the next wave given by `ord` (a Python `set` before the
repair F28; since then `task_list` order, which is `canonSet`) -/
def nextOfOrd (m : Model) (ord : List Nat → List Nat) (wave : List Nat) : List Nat :=
  ord (wave.flatMap fun i => (m.task i).outputs.map (·.1))

def fwdLoopOrd (m : Model) (ord : List Nat → List Nat) (l : Live) : Nat → List Nat → Pert → Pert
  | 0, _, p => p
  | fuel + 1, wave, p =>
    if wave.isEmpty then p
    else fwdLoopOrd m ord l fuel (nextOfOrd m ord wave) (fwdWave m l wave p)

def prevOfOrd (m : Model) (ord : List Nat → List Nat) (wave : List Nat) : List Nat :=
  ord (wave.flatMap fun o => (m.task o).inputs.map (·.1))

def bwdLoopOrd (m : Model) (ord : List Nat → List Nat) (l : Live) : Nat → List Nat → Pert → Pert
  | 0, _, p => p
  | fuel + 1, wave, p =>
    if wave.isEmpty then p
    else bwdLoopOrd m ord l fuel (prevOfOrd m ord wave) (bwdWave m l wave p)

/-- `pertFwd` with every wave (the head set included) visited in the order chosen by `ord` -/
def pertFwdOrd (m : Model) (ord : List Nat → List Nat) (time : Rat) (l : Live) : Pert :=
  let p0 : Pert :=
    { est := fun t => if t < m.nT then time else l.est t
      eft := fun t => if t < m.nT && (m.task t).inputs.isEmpty then time + l.rem t else l.eft t
      lst := l.lst, lft := l.lft }
  fwdLoopOrd m ord l (m.nT + 1) (ord (heads m)) p0

/-- `pertBwd` with every wave (the tail set included) visited in the order chosen by `ord` -/
def pertBwdOrd (m : Model) (ord : List Nat → List Nat) (l : Live) (reset : Bool) (p : Pert) :
    Pert × Rat :=
  let tl := tails m
  let cpl := maxList l.cpl (tl.map p.eft)
  let base : Pert := if reset then
      { p with lst := fun t => if t < m.nT then -1 else p.lst t,
               lft := fun t => if t < m.nT then -1 else p.lft t } else p
  let p1 : Pert :=
    { base with lft := fun t => if tl.contains t then cpl else base.lft t
                lst := fun t => if tl.contains t then cpl - l.rem t else base.lst t
                done := fun _ => false }
  (bwdLoopOrd m ord l (m.nT + 1) (ord tl) p1, cpl)

/-- `pert` with the iteration order of every task set given by `ord` (`pert` itself is
`pertOrd m (canonSet m.nT)`, see `pertOrd_canon`) -/
def pertOrd (m : Model) (ord : List Nat → List Nat) (time : Nat) (l : Live) : Live :=
  let pf := pertFwdOrd m ord (time : Rat) l
  let (pb, cpl) := pertBwdOrd m ord l pertReset pf
  { l with est := tabN m.nT pb.est, eft := tabN m.nT pb.eft,
           lst := tabN m.nT pb.lst, lft := tabN m.nT pb.lft, cpl := cpl }

theorem canonSet_filter_range (n : Nat) (p : Nat → Bool) :
    canonSet n ((List.range n).filter p) = (List.range n).filter p := by
  unfold canonSet
  apply List.filter_congr
  intro x hx
  have hx' := List.mem_range.mp hx
  rw [Bool.eq_iff_iff, List.contains_iff_mem, List.mem_filter, List.mem_range]
  exact ⟨fun h => h.2, fun h => ⟨hx', h⟩⟩

theorem fwdLoopOrd_wLoop (m : Model) (ord : List Nat → List Nat) (l : Live) :
    ∀ (fuel : Nat) (W : List Nat) (p : Pert),
    fwdLoopOrd m ord l fuel W p = wLoop ord (outs m) (·.1) (fwdRelax l) fuel W p :=
  wLoop_unique _ _ (fun _ _ => rfl) fun _ _ _ => rfl

theorem bwdLoopOrd_wLoop (m : Model) (ord : List Nat → List Nat) (l : Live) :
    ∀ (fuel : Nat) (W : List Nat) (p : Pert),
    bwdLoopOrd m ord l fuel W p = wLoop ord (ins m) (·.1) (bwdRelax l) fuel W p :=
  wLoop_unique _ _ (fun _ _ => rfl) fun _ _ _ => rfl

theorem fwdLoop_wLoop (m : Model) (l : Live) : ∀ (fuel : Nat) (W : List Nat) (p : Pert),
    fwdLoop m l fuel W p = wLoop (canonSet m.nT) (outs m) (·.1) (fwdRelax l) fuel W p :=
  wLoop_unique _ _ (fun _ _ => rfl) fun _ _ _ => rfl

theorem bwdLoop_wLoop (m : Model) (l : Live) : ∀ (fuel : Nat) (W : List Nat) (p : Pert),
    bwdLoop m l fuel W p = wLoop (canonSet m.nT) (ins m) (·.1) (bwdRelax l) fuel W p :=
  wLoop_unique _ _ (fun _ _ => rfl) fun _ _ _ => rfl

theorem pertOrd_canon (m : Model) (time : Nat) (l : Live) :
    pertOrd m (canonSet m.nT) time l = pert m time l := by
  have h1 : canonSet m.nT (heads m) = heads m := canonSet_filter_range _ _
  have h2 : canonSet m.nT (tails m) = tails m := canonSet_filter_range _ _
  simp only [pertOrd, pert, pertFwdOrd, pertFwd, pertBwdOrd, pertBwd, h1, h2, fwdLoopOrd_wLoop,
    bwdLoopOrd_wLoop, fwdLoop_wLoop, bwdLoop_wLoop]

end PDesy.Order
