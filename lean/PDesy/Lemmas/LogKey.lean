/-
  PDesy.Lemmas.LogKey — the 17 logs read through one key.
  `LogKey` names one log of one object, `lg.get k` reads it, `k.In m` says the object exists in
  `m`.  Every operation of the model on `Logs` has ONE equation `(op lg).get k = …` here (`record`
  together with the `cost` before it, as `stepBody` runs them; `record` alone is read at the one
  field its users look at, `record_tState`), and `Aligned` is bridged to `∀ k, k.In m → …`, so that a
  statement about all logs is proved once, for a variable key, instead of field by field.
-/
import PDesy.Lemmas.Defs
import PDesy.Model.Backward

namespace PDesy

inductive LogKey
  | tState (t : Nat) | tRem (t : Nat) | tAllocW (t : Nat) | tAllocF (t : Nat)
  | wState (w : Nat) | wCost (w : Nat) | wAsg (w : Nat)
  | fState (f : Nat) | fCost (f : Nat) | fAsg (f : Nat)
  | teamCost (a : Nat) | wpCost (q : Nat) | wpPlaced (q : Nat)
  | orgCost | projCost
  | cState (c : Nat) | cPlaced (c : Nat)

namespace LogKey

@[reducible] def ty : LogKey → Type
  | tState _ => TS | tRem _ => Rat | tAllocW _ => List Nat | tAllocF _ => List Nat
  | wState _ => RS | wCost _ => Rat | wAsg _ => List Nat
  | fState _ => RS | fCost _ => Rat | fAsg _ => List Nat
  | teamCost _ => Rat | wpCost _ => Rat | wpPlaced _ => List Nat
  | orgCost => Rat | projCost => Rat
  | cState _ => CS | cPlaced _ => Option Nat

def In (m : Model) : LogKey → Prop
  | tState t | tRem t | tAllocW t | tAllocF t => t < m.nT
  | wState w | wCost w | wAsg w => w < m.nW
  | fState f | fCost f | fAsg f => f < m.nF
  | teamCost a => a < m.nTeam
  | wpCost q | wpPlaced q => q < m.nWp
  | orgCost | projCost => True
  | cState c | cPlaced c => c < m.nC

/- the instances are those of the `if`s in the model's log operations, so that the equations
below hold by `rfl` -/
instance (m : Model) : (k : LogKey) → Decidable (k.In m)
  | tState t | tRem t | tAllocW t | tAllocF t => inferInstanceAs (Decidable (t < m.nT))
  | wState w | wCost w | wAsg w => inferInstanceAs (Decidable (w < m.nW))
  | fState f | fCost f | fAsg f => inferInstanceAs (Decidable (f < m.nF))
  | teamCost a => inferInstanceAs (Decidable (a < m.nTeam))
  | wpCost q | wpPlaced q => inferInstanceAs (Decidable (q < m.nWp))
  | orgCost | projCost => inferInstanceAs (Decidable True)
  | cState c | cPlaced c => inferInstanceAs (Decidable (c < m.nC))

/-- the log of the same object whose length guards the `pop`s and `insert`s on log `k`
(`remove_absence_time_list` / `insert_absence_time_list` test `step < len(state_record_list)`) -/
def guard : LogKey → LogKey
  | tState t | tRem t | tAllocW t | tAllocF t => tState t
  | wState w | wCost w | wAsg w => wState w
  | fState f | fCost f | fAsg f => fState f
  | cState c | cPlaced c => cState c
  | k => k

theorem guard_in {m : Model} {k : LogKey} (h : k.In m) : k.guard.In m := by cases k <;> exact h

theorem guard_guard (k : LogKey) : k.guard.guard = k.guard := by cases k <;> rfl

end LogKey

def Logs.get (lg : Logs) : (k : LogKey) → List k.ty
  | .tState t => lg.tState t | .tRem t => lg.tRem t
  | .tAllocW t => lg.tAllocW t | .tAllocF t => lg.tAllocF t
  | .wState w => lg.wState w | .wCost w => lg.wCost w | .wAsg w => lg.wAsg w
  | .fState f => lg.fState f | .fCost f => lg.fCost f | .fAsg f => lg.fAsg f
  | .teamCost a => lg.teamCost a | .wpCost q => lg.wpCost q | .wpPlaced q => lg.wpPlaced q
  | .orgCost => lg.orgCost | .projCost => lg.projCost
  | .cState c => lg.cState c | .cPlaced c => lg.cPlaced c

theorem Logs.ext_get {a b : Logs} (h : ∀ k, a.get k = b.get k) : a = b := by
  -- a record of logs is the tuple of its reads
  have e : ∀ lg : Logs, lg = ⟨fun x => lg.get (.tState x), fun x => lg.get (.tRem x),
      fun x => lg.get (.tAllocW x), fun x => lg.get (.tAllocF x), fun x => lg.get (.wState x),
      fun x => lg.get (.wCost x), fun x => lg.get (.wAsg x), fun x => lg.get (.fState x),
      fun x => lg.get (.fCost x), fun x => lg.get (.fAsg x), fun x => lg.get (.teamCost x),
      fun x => lg.get (.wpCost x), fun x => lg.get (.wpPlaced x), lg.get .orgCost, lg.get .projCost,
      fun x => lg.get (.cState x), fun x => lg.get (.cPlaced x)⟩ := fun _ => rfl
  rw [e a, e b]; simp only [h]

theorem Aligned.get {m : Model} {s : St} (h : Aligned m s) :
    ∀ k : LogKey, k.In m → (s.logs.get k).length = s.time
  | .tState t => h.tState t | .tRem t => h.tRem t
  | .tAllocW t => h.tAllocW t | .tAllocF t => h.tAllocF t
  | .wState w => h.wState w | .wCost w => h.wCost w | .wAsg w => h.wAsg w
  | .fState f => h.fState f | .fCost f => h.fCost f | .fAsg f => h.fAsg f
  | .teamCost a => h.teamCost a | .wpCost q => h.wpCost q | .wpPlaced q => h.wpPlaced q
  | .orgCost => fun _ => h.orgCost | .projCost => fun _ => h.projCost
  | .cState c => h.cState c | .cPlaced c => h.cPlaced c

theorem Aligned.of_get {m : Model} {s : St}
    (h : ∀ k : LogKey, k.In m → (s.logs.get k).length = s.time) : Aligned m s :=
  ⟨fun x => h (.tState x), fun x => h (.tRem x), fun x => h (.tAllocW x), fun x => h (.tAllocF x),
   fun x => h (.wState x), fun x => h (.wCost x), fun x => h (.wAsg x),
   fun x => h (.fState x), fun x => h (.fCost x), fun x => h (.fAsg x),
   fun x => h (.teamCost x), fun x => h (.wpCost x), fun x => h (.wpPlaced x),
   h .orgCost trivial, h .projCost trivial, fun x => h (.cState x), fun x => h (.cPlaced x)⟩

theorem Aligned.map {m : Model} {s s' : St} (h : Aligned m s) (f : Nat → Nat)
    (hl : ∀ k : LogKey, k.In m → (s'.logs.get k).length = f (s.logs.get k).length)
    (ht : s'.time = f s.time) : Aligned m s' :=
  .of_get fun k hk => by rw [hl k hk, h.get k hk, ht]

theorem Aligned.congr_get {m : Model} {s s' : St} (h : Aligned m s) (ht : s'.time = s.time)
    (hl : ∀ k : LogKey, k.In m → s'.logs.get k = s.logs.get k) : Aligned m s' :=
  h.map id (fun k hk => by rw [hl k hk]; rfl) ht

theorem Aligned.congr {m : Model} {s s' : St} (h : Aligned m s) (hl : s'.logs = s.logs)
    (ht : s'.time = s.time) : Aligned m s' :=
  h.congr_get ht fun _ _ => by rw [hl]

namespace Bwd

/-- `Aligned` as a conjunction of bounded quantifications (decidable) -/
theorem aligned_iff (m : Model) (s : St) :
    Aligned m s ↔
      ((∀ t, t < m.nT → (s.logs.tState t).length = s.time) ∧
       (∀ t, t < m.nT → (s.logs.tRem t).length = s.time) ∧
       (∀ t, t < m.nT → (s.logs.tAllocW t).length = s.time) ∧
       (∀ t, t < m.nT → (s.logs.tAllocF t).length = s.time)) ∧
      ((∀ w, w < m.nW → (s.logs.wState w).length = s.time) ∧
       (∀ w, w < m.nW → (s.logs.wCost w).length = s.time) ∧
       (∀ w, w < m.nW → (s.logs.wAsg w).length = s.time)) ∧
      ((∀ f, f < m.nF → (s.logs.fState f).length = s.time) ∧
       (∀ f, f < m.nF → (s.logs.fCost f).length = s.time) ∧
       (∀ f, f < m.nF → (s.logs.fAsg f).length = s.time)) ∧
      (∀ a, a < m.nTeam → (s.logs.teamCost a).length = s.time) ∧
      ((∀ q, q < m.nWp → (s.logs.wpCost q).length = s.time) ∧
       (∀ q, q < m.nWp → (s.logs.wpPlaced q).length = s.time)) ∧
      (s.logs.orgCost.length = s.time ∧ s.logs.projCost.length = s.time) ∧
      ((∀ c, c < m.nC → (s.logs.cState c).length = s.time) ∧
       (∀ c, c < m.nC → (s.logs.cPlaced c).length = s.time)) :=
  ⟨fun h => ⟨⟨h.tState, h.tRem, h.tAllocW, h.tAllocF⟩, ⟨h.wState, h.wCost, h.wAsg⟩,
    ⟨h.fState, h.fCost, h.fAsg⟩, h.teamCost, ⟨h.wpCost, h.wpPlaced⟩, ⟨h.orgCost, h.projCost⟩,
    ⟨h.cState, h.cPlaced⟩⟩,
   fun ⟨⟨h1, h2, h3, h4⟩, ⟨h5, h6, h7⟩, ⟨h8, h9, h10⟩, h11, ⟨h12, h13⟩, ⟨h14, h15⟩, ⟨h16, h17⟩⟩ =>
    ⟨h1, h2, h3, h4, h5, h6, h7, h8, h9, h10, h11, h12, h13, h14, h15, h16, h17⟩⟩

instance (m : Model) (s : St) : Decidable (Aligned m s) :=
  decidable_of_iff _ (aligned_iff m s).symm

end Bwd

variable {m : Model}

/-- what one recorded step appends to log `k`: the costs are charged on `lc`, the rest shows `l` -/
def rowVal (m : Model) (wk : Bool) (lc l : Live) : (k : LogKey) → k.ty
  | .tState t => showT wk (l.tstate t) | .tRem t => l.rem t
  | .tAllocW t => l.allocW t | .tAllocF t => l.allocF t
  | .wState w => showR wk (l.wstate w) | .wCost w => wCostNow m lc wk w | .wAsg w => l.wasg w
  | .fState f => showR wk (l.fstate f) | .fCost f => fCostNow m lc wk f | .fAsg f => l.fasg f
  | .teamCost a => teamCostNow m lc wk a | .wpCost q => wpCostNow m lc wk q
  | .wpPlaced q => l.wpComps q
  | .orgCost => orgCostNow m lc wk | .projCost => orgCostNow m lc wk
  | .cState c => showC wk (l.cstate c) | .cPlaced c => l.placed c

theorem record_cost_get (wk : Bool) (lc l : Live) (lg : Logs) (k : LogKey) :
    (record m wk l (cost m wk lc lg)).get k =
      if k.In m then lg.get k ++ [rowVal m wk lc l k] else lg.get k := by
  simp only [record, cost, tabN_eq]; cases k <;> rfl

theorem record_tState (w : Bool) (l : Live) (lg : Logs) (t : Nat) (ht : t < m.nT) :
    (record m w l lg).tState t = lg.tState t ++ [showT w (l.tstate t)] := by
  simp only [record, tabN_eq, if_pos ht]

theorem removeLogs_get (steps : List Nat) (g : Logs) (k : LogKey) :
    (removeLogs m steps g).get k =
      if k.In m then popBy steps (g.get k.guard).length (g.get k) else g.get k := by
  cases k <;> rfl

/-- the value `insert_absence_time_list` inserts into log `k` at `step`, given the log so far -/
def insVal (m : Model) : (k : LogKey) → Nat → List k.ty → k.ty
  | .tState _ => mkStateT
  | .tRem t => copyPrev ((m.task t).work * (1 - (m.task t).prog))
  | .tAllocW _ | .tAllocF _ | .wAsg _ | .fAsg _ | .wpPlaced _ => copyPrev []
  | .wState _ | .fState _ => fun _ _ => RS.free
  | .wCost _ | .fCost _ | .teamCost _ | .wpCost _ | .orgCost | .projCost => fun _ _ => (0 : Rat)
  | .cState _ => mkStateC
  | .cPlaced _ => copyPrev Option.none

theorem insertLogs_get (steps : List Nat) (g : Logs) (k : LogKey) :
    (insertLogs m steps g).get k =
      if k.In m then insSteps steps (g.get k.guard).length (insVal m k) (g.get k) else g.get k := by
  cases k <;> rfl

theorem reverseLogs_get (s : St) (k : LogKey) :
    (reverseLogs m s).logs.get k = if k.In m then (s.logs.get k).reverse else s.logs.get k := by
  cases k <;> rfl

theorem Aligned.reverse {s : St} (h : Aligned m s) : Aligned m (reverseLogs m s) :=
  h.map id (fun k hk => by rw [reverseLogs_get, if_pos hk, List.length_reverse]; rfl) rfl

theorem Logs.empty_get (k : LogKey) : Logs.empty.get k = [] := by cases k <;> rfl

theorem aligned_fresh (m : Model) : Aligned m St.fresh :=
  .of_get fun k _ => congrArg List.length (Logs.empty_get k)

theorem bwdStart_get {m' : Model} (due : Bool) (s : St) (hT : m'.nT ≤ m.nT) {k : LogKey}
    (hk : k.In m') : (bwdStart m due s).logs.get k = s.logs.get k := by
  cases k
  case tState | tRem | tAllocW | tAllocF =>
    exact if_neg (Nat.not_le_of_lt (Nat.lt_of_lt_of_le hk hT))
  all_goals rfl

end PDesy
