/-
  PDesy.Lemmas.Elig — what "eligible" means (`WorkerElig`, `FacElig`, `PairElig`: static facts of
  the model) and the invariant `EligInv` (one `EligAt` per task) (C04).  Every action of the
  allocation pass keeps it, because what is given has passed `can_add_resources` on the lists as
  they were.  For the safety half of C05: a task nobody is eligible for stays `Idle`.
-/
import PDesy.Lemmas.Lifecycle

namespace PDesy
namespace Elig
open Lifecycle Finish

/-- worker `w` may work on task `t`: positive skill for the task, the worker's team is assigned
to the task, and the task's fixed worker list (if any) contains the worker -/
def WorkerElig (m : Model) (t w : Nat) : Prop :=
  hasSkill (m.worker w).skills (m.task t).name = true ∧ teamTargets m w t = true ∧
  (∀ ids, (m.task t).fixW = some ids → w ∈ ids)

/-- facility `f` may be used for task `t`: positive skill, its workplace is assigned to the
task, and the task's fixed facility list (if any) contains it -/
def FacElig (m : Model) (t f : Nat) : Prop :=
  hasSkill (m.fac f).skills (m.task t).name = true ∧ wpTargets m f t = true ∧
  (∀ ids, (m.task t).fixF = some ids → f ∈ ids)

/-- the pair (worker, facility) may work on `t`: both are eligible and the worker can operate
the facility -/
def PairElig (m : Model) (t w f : Nat) : Prop :=
  WorkerElig m t w ∧ FacElig m t f ∧ hasSkill (m.worker w).facSkills (m.fac f).name = true

/-- the clauses of C04 for one task `t` that holds the workers `ws` and the facilities `fs` -/
structure EligAt (m : Model) (t : Nat) (ws fs : List Nat) : Prop where
  /-- (a) every held worker is eligible -/
  worker : ∀ w ∈ ws, WorkerElig m t w
  /-- (b) a solo worker is alone -/
  soloW : (∃ w ∈ ws, (m.worker w).solo = true) → ws.length = 1
  /-- (b) a solo facility is alone -/
  soloF : (∃ f ∈ fs, (m.fac f).solo = true) → fs.length = 1
  /-- (c) a task that needs a facility holds workers and facilities in eligible pairs -/
  pairs : (m.task t).needFac = true →
    ws.length = fs.length ∧ ∀ wf ∈ ws.zip fs, PairElig m t wf.1 wf.2
  /-- (d) a task that needs no facility holds none -/
  noFac : (m.task t).needFac = false → fs = []
  /-- (e) an automatic task holds nothing -/
  auto : (m.task t).isAuto = true → ws = [] ∧ fs = []

/-- the invariant of C04 on the allocations held in a live state -/
def EligInv (m : Model) (l : Live) : Prop :=
  ∀ t, t < m.nT → EligAt m t (l.allocW t) (l.allocF t)

/-! ### the invariant is decidable (for the `example`s) -/

def workerEligB (m : Model) (t w : Nat) : Bool :=
  hasSkill (m.worker w).skills (m.task t).name && teamTargets m w t &&
  (match (m.task t).fixW with | some ids => ids.contains w | Option.none => true)

theorem workerEligB_iff (m : Model) (t w : Nat) : workerEligB m t w = true ↔ WorkerElig m t w := by
  unfold workerEligB WorkerElig
  cases h : (m.task t).fixW <;> simp [and_assoc]

instance (m : Model) (t w : Nat) : Decidable (WorkerElig m t w) :=
  decidable_of_iff _ (workerEligB_iff m t w)

instance (m : Model) (t f : Nat) : Decidable (FacElig m t f) := by
  unfold FacElig; infer_instance

instance (m : Model) (t w f : Nat) : Decidable (PairElig m t w f) := by
  unfold PairElig; infer_instance

theorem eligAt_iff (m : Model) (t : Nat) (ws fs : List Nat) :
    EligAt m t ws fs ↔
      (∀ w ∈ ws, WorkerElig m t w) ∧
      ((∃ w ∈ ws, (m.worker w).solo = true) → ws.length = 1) ∧
      ((∃ f ∈ fs, (m.fac f).solo = true) → fs.length = 1) ∧
      ((m.task t).needFac = true →
        ws.length = fs.length ∧ ∀ wf ∈ ws.zip fs, PairElig m t wf.1 wf.2) ∧
      ((m.task t).needFac = false → fs = []) ∧
      ((m.task t).isAuto = true → ws = [] ∧ fs = []) :=
  ⟨fun h => ⟨h.worker, h.soloW, h.soloF, h.pairs, h.noFac, h.auto⟩,
   fun ⟨a, b, c, d, e, f⟩ => ⟨a, b, c, d, e, f⟩⟩

instance (m : Model) (t : Nat) (ws fs : List Nat) : Decidable (EligAt m t ws fs) :=
  decidable_of_iff _ (eligAt_iff m t ws fs).symm

instance (m : Model) (l : Live) : Decidable (EligInv m l) := by
  unfold EligInv; infer_instance

theorem EligAt.nil (m : Model) (t : Nat) : EligAt m t [] [] where
  worker := by intro w hw; cases hw
  soloW := by rintro ⟨w, hw, _⟩; cases hw
  soloF := by rintro ⟨f, hf, _⟩; cases hf
  pairs := by intro _; exact ⟨rfl, by intro wf h; cases h⟩
  noFac := fun _ => rfl
  auto := fun _ => ⟨rfl, rfl⟩

/-- the lists have the same length, so every held facility is the second half of a pair -/
theorem EligAt.fac {m : Model} {t : Nat} {ws fs : List Nat} (h : EligAt m t ws fs)
    (hn : (m.task t).needFac = true) : ∀ f ∈ fs, FacElig m t f := by
  obtain ⟨hlen, hp⟩ := h.pairs hn
  intro f hf
  rw [← List.map_snd_zip (Nat.le_of_eq hlen.symm), List.mem_map] at hf
  obtain ⟨wf, hwf, rfl⟩ := hf
  exact (hp wf hwf).2.1

theorem EligInv.congr {m : Model} {l l' : Live} (h : EligInv m l)
    (hW : l'.allocW = l.allocW) (hF : l'.allocF = l.allocF) : EligInv m l' := by
  intro t ht; rw [hW, hF]; exact h t ht

theorem EligInv_absenceSet {m : Model} {time : Nat} {wk : Bool} {l : Live} (h : EligInv m l) :
    EligInv m (absenceSet m time wk l) := by
  rw [absenceSet_eq]; exact h.congr rfl rfl

theorem EligInv.upd {m : Model} {l l' : Live} (h : EligInv m l) (t : Nat) (ws fs : List Nat)
    (hW : l'.allocW = upd l.allocW t ws) (hF : l'.allocF = upd l.allocF t fs)
    (hat : t < m.nT → EligAt m t ws fs) : EligInv m l' := by
  intro t' ht'
  rw [hW, hF]
  by_cases he : t' = t
  · subst he; simpa using hat ht'
  · simpa [he] using h t' ht'

theorem solo_append {solo : Nat → Bool} {xs : List Nat} {x : Nat}
    (h1 : ∀ y ∈ xs, solo y = false) (h2 : solo x = true → xs = []) :
    (∃ y ∈ xs ++ [x], solo y = true) → (xs ++ [x]).length = 1 := by
  rintro ⟨y, hy, hs⟩
  rcases List.mem_append.mp hy with h' | h'
  · rw [h1 y h'] at hs; cases hs
  · rw [h2 (List.mem_singleton.mp h' ▸ hs)]; rfl

theorem EligAt.addW {m : Model} {t : Nat} {ws fs : List Nat} (h : EligAt m t ws fs) (w : Nat)
    (hnf : (m.task t).needFac = false) (hna : (m.task t).isAuto = false)
    (hel : WorkerElig m t w)
    (hs1 : ∀ w' ∈ ws, (m.worker w').solo = false)
    (hs2 : (m.worker w).solo = true → ws = []) : EligAt m t (ws ++ [w]) fs where
  worker := fun w' hw' => (List.mem_append.mp hw').elim (h.worker w') fun h' =>
    List.mem_singleton.mp h' ▸ hel
  soloW := solo_append hs1 hs2
  soloF := h.soloF
  pairs := by intro hn; rw [hnf] at hn; cases hn
  noFac := h.noFac
  auto := by intro ha; rw [hna] at ha; cases ha

theorem EligAt.addWF {m : Model} {t : Nat} {ws fs : List Nat} (h : EligAt m t ws fs) (w f : Nat)
    (hnf : (m.task t).needFac = true) (hna : (m.task t).isAuto = false)
    (hel : PairElig m t w f)
    (hs1 : ∀ w' ∈ ws, (m.worker w').solo = false)
    (hs2 : (m.worker w).solo = true → ws = [])
    (hs3 : ∀ f' ∈ fs, (m.fac f').solo = false)
    (hs4 : (m.fac f).solo = true → fs = []) : EligAt m t (ws ++ [w]) (fs ++ [f]) where
  worker := fun w' hw' => (List.mem_append.mp hw').elim (h.worker w') fun h' =>
    List.mem_singleton.mp h' ▸ hel.1
  soloW := solo_append hs1 hs2
  soloF := solo_append hs3 hs4
  pairs := by
    intro _
    obtain ⟨hlen, hp⟩ := h.pairs hnf
    refine ⟨by simp [hlen], fun wf hwf => ?_⟩
    rw [List.zip_append hlen] at hwf
    rcases List.mem_append.mp hwf with h' | h'
    · exact hp wf h'
    · rw [show wf = (w, f) by simpa using h']; exact hel
  noFac := by intro hn; rw [hnf] at hn; cases hn
  auto := by intro ha; rw [hna] at ha; cases ha

/-! ### check_state(FINISHED) only clears lists -/

variable (m : Model)

theorem EligInv_finishOne (l : Live) (t : Nat) (h : EligInv m l) : EligInv m (finishOne m l t) := by
  by_cases hn : (m.task t).needFac = true
  · refine h.upd t [] [] (by rw [finishOne_eq]) ?_ (fun _ => EligAt.nil m t)
    rw [finishOne_eq]; exact if_pos hn
  · have hn' : (m.task t).needFac = false := by simpa using hn
    refine h.upd t [] (l.allocF t) (by rw [finishOne_eq]) ?_ ?_
    · rw [finishOne_eq]; exact (if_neg hn).trans (upd_eq_self _ _).symm
    · intro ht
      rw [(h t ht).noFac hn']; exact EligAt.nil m t

theorem EligInv_chkFinished (l : Live) (h : EligInv m l) : EligInv m (chkFinished m l) :=
  chkFinished_ind (EligInv m) (fun acc t _ _ _ _ ha => EligInv_finishOne m acc t ha) l h

/-! ### every action of the pass keeps the invariant -/

theorem EligInv.act {m : Model} {a a' : Alloc} {t : Nat} (h : EligInv m a.l)
    (hact : Act m t a a') : EligInv m a'.l := by
  cases hact with
  | perm => exact h
  | move c p => exact h.congr (by rw [moveComp_frame]) (by rw [moveComp_frame])
  | worker w hna hnf _ hs ht hcan =>
    obtain ⟨hr, hfit⟩ := canAdd_iff.mp hcan
    exact h.upd t (a.l.allocW t ++ [w]) (a.l.allocF t) rfl (upd_eq_self _ _).symm fun ht' =>
      (h t ht').addW w hnf hna ⟨hs, ht, (fits_W_iff.mp hfit).1⟩ hr.soloW (hr.newW w rfl)
  | pair w f c p hna hnf _ _ _ _ hft _ hs ht hcan =>
    obtain ⟨hr, hfit⟩ := canAdd_iff.mp hcan
    obtain ⟨hfixW, hfixF, hfs, hfo, hws⟩ := fits_WF_iff.mp hfit
    exact h.upd t (a.l.allocW t ++ [w]) (a.l.allocF t ++ [f]) rfl rfl fun ht' =>
      (h t ht').addWF w f hnf hna ⟨⟨hws, ht, hfixW⟩, ⟨hfs, hft, hfixF⟩, hfo⟩ hr.soloW (hr.newW w rfl)
        hr.soloF (hr.newF f rfl)

theorem EligInv_allocate (lg : Logs) (rule : TaskRule) (l : Live) (h : EligInv m l) :
    EligInv m (allocate m lg rule l) := by
  obtain ⟨a, hr, e⟩ := allocate_reach m lg rule l
  rw [e]; exact hr.inv (P := fun x => EligInv m x.l) (fun _ _ _ _ hact hb => hb.act hact) h

theorem EligInv_update (time : Nat) (l : Live) (h : EligInv m l) : EligInv m (update m time l) := by
  rw [update_frame]; exact (EligInv_chkFinished m l h).congr rfl rfl

theorem EligInv_preWorking (p : Params) (s : St) (h : EligInv m s.live) :
    EligInv m (preWorking m p s) := by
  unfold preWorking
  split
  · exact EligInv_allocate m _ _ _ (EligInv_absenceSet h)
  · exact EligInv_absenceSet h

theorem EligInv_stepBody (p : Params) (s : St) (h : EligInv m s.live) :
    EligInv m (stepBody m p s).live :=
  (EligInv_preWorking m p s h).congr (stepBody_allocW m p s) (stepBody_allocF m p s)

theorem EligInv_loopInv (p : Params) : LoopInv m p (fun s => EligInv m s.live) :=
  .of_live (EligInv_update m) (EligInv_stepBody m p)

theorem EligInv_enter {p : Params} (hp : p.initState = true) (s : St) :
    EligInv m (enter m p s).live := by
  obtain ⟨hW, hF, _⟩ := enter_live_empty m hp s
  intro t _
  rw [hW, hF]
  exact EligAt.nil m t

/-! ### C05: a task nobody can serve stays idle -/

/-- task `t` has not started and holds no worker -/
def Idle (l : Live) (t : Nat) : Prop :=
  (l.tstate t = .none ∨ l.tstate t = .ready) ∧ l.allocW t = []

theorem Idle.of_not_started {l : Live} {t : Nat}
    (h : l.tstate t ≠ .working ∧ l.tstate t ≠ .finished) (h0 : l.allocW t = []) : Idle l t := by
  refine ⟨?_, h0⟩
  obtain ⟨h1, h2⟩ := h
  revert h1 h2
  cases l.tstate t <;> simp

theorem Idle.not_finished {l : Live} {t : Nat} (h : Idle l t) : l.tstate t ≠ .finished := by
  rcases h.1 with h | h <;> rw [h] <;> nofun

theorem Idle.not_allFinished {l : Live} {t : Nat} (h : Idle l t) (ht : t < m.nT) :
    allFinished m l = false :=
  Bool.eq_false_iff.mpr fun hall => h.not_finished (allFinished_iff.mp hall t ht)

theorem Idle_chkFinished (l : Live) (t : Nat) (h : Idle l t) : Idle (chkFinished m l) t :=
  chkFinished_ind (fun a => Idle a t) (fun acc t' _ hw _ _ ha => by
    have hne : t ≠ t' := by
      intro he; subst he
      rcases ha.1 with h1 | h1 <;> rw [h1] at hw <;> exact absurd hw (by decide)
    exact ⟨by rw [Finish.finishOne_tstate, upd_other _ _ _ _ hne]; exact ha.1,
      by rw [finishOne_eq]; exact (upd_other _ _ _ _ hne).trans ha.2⟩) l h

theorem Idle_update (time : Nat) (l : Live) (t : Nat) (h : Idle l t) :
    Idle (update m time l) t := by
  have h1 := Idle_chkFinished m l t h
  refine ⟨?_, by rw [update_frame]; exact h1.2⟩
  rw [update_tstate, chkReady_tstate]
  split
  · exact Or.inr rfl
  · exact h1.1

theorem Idle_preWorking (p : Params) (s : St) (t : Nat) (ht : t < m.nT)
    (hI : EligInv m s.live) (hno : ∀ w, w < m.nW → ¬ WorkerElig m t w) (h : Idle s.live t) :
    Idle (preWorking m p s) t := by
  refine ⟨by rw [preWorking_tstate]; exact h.1, List.eq_nil_iff_forall_not_mem.mpr fun w hw => ?_⟩
  -- a worker the task holds after the pass was held before, or is a worker of the model the pass gave
  rcases (preWorking_afterPass m p s).srcW t w hw with h' | ⟨_, hlt, _⟩
  · rw [absenceSet_eq, h.2] at h'; cases h'
  · exact hno w hlt ((EligInv_preWorking m p s hI t ht).worker w hw)

theorem workingTarget_idle (l : Live) (t : Nat) (h : Idle l t) (ha : (m.task t).isAuto = false) :
    workingTarget m l t = false := by
  unfold workingTarget
  simp [h.2, ha]

theorem Idle_chkWorking (l : Live) (t : Nat) (h : Idle l t) (ha : (m.task t).isAuto = false) :
    Idle (chkWorking m l) t := by
  refine ⟨?_, by rw [chkWorking_frame]; exact h.2⟩
  rw [chkWorking_tstate, if_neg fun hc => ?_]
  · exact h.1
  · rw [workingTarget_idle m l t h ha] at hc; cases hc.2.1

theorem Idle_stepBody (p : Params) (s : St) (t : Nat) (ht : t < m.nT)
    (ha : (m.task t).isAuto = false)
    (hI : EligInv m s.live) (hno : ∀ w, w < m.nW → ¬ WorkerElig m t w) (h : Idle s.live t) :
    Idle (stepBody m p s).live t := by
  have hp := Idle_preWorking m p s t ht hI hno h
  refine ⟨?_, by rw [stepBody_allocW]; exact hp.2⟩
  rw [stepBody_tstate]
  cases startGuard p s
  · exact hp.1
  · exact (Idle_chkWorking m _ t hp ha).1

theorem Idle_loopInv (p : Params) (t : Nat) (ht : t < m.nT) (ha : (m.task t).isAuto = false)
    (hno : ∀ w, w < m.nW → ¬ WorkerElig m t w) :
    LoopInv m p (fun s => Idle s.live t ∧ EligInv m s.live) :=
  .of_live (I := fun l => Idle l t ∧ EligInv m l)
    (fun time l h => ⟨Idle_update m time l t h.1, EligInv_update m time l h.2⟩)
    fun s h => ⟨Idle_stepBody m p s t ht ha h.2 hno h.1, EligInv_stepBody m p s h.2⟩

/-- `hprog`: when the logs are reset too, `initialize` marks a task whose default progress is
complete as FINISHED -/
theorem Idle_enter {p : Params} (hp : p.initState = true) (s : St) (t : Nat)
    (hprog : p.initLog = true → (m.task t).prog < 1) : Idle (enter m p s).live t := by
  refine ⟨?_, (enter_live_empty m hp s).1 t⟩
  rw [enter_live_init m hp]
  have h0 : (initLive m p.initLog s.live).tstate t = .none := by
    rw [initLive_tstate]
    cases h : p.initLog
    · rfl
    · exact if_neg (by simpa using Rat.not_le.mpr (hprog h))
  -- NONE after `initLive`, untouched by PERT, then NONE or READY after `check_state(READY)`
  rw [initProject_tstate]
  rcases chkReady_cases m _ t with e | ⟨_, e, _⟩
  · left; rw [e, pert_tstate]; exact h0
  · exact Or.inr e

/-! ### concrete models for the `example`s of the property files -/

/-- Task 0 needs a facility (component 0, workplace 0 with the single facility 0); task 1 follows
it finish-to-start and fixes worker 1; task 2 is automatic.  Worker 0 works solo, has the skill
for tasks 0 and 1 and can operate facility 0; worker 1 only has the skill for task 1. -/
def exF : Model where
  nT := 3
  nW := 2
  nF := 1
  nTeam := 1
  nWp := 1
  nC := 1
  task := fun t =>
    match t with
    | 0 => { name := 0, work := 2, needFac := true, wps := [0], comp := some 0,
             outputs := [(1, .fs)] }
    | 1 => { name := 1, work := 1, inputs := [(0, .fs)], fixW := some [1] }
    | _ => { name := 2, work := 1, isAuto := true }
  worker := fun w =>
    match w with
    | 0 => { team := 0, skills := [(0, 1), (1, 1)], facSkills := [(0, 1)], solo := true }
    | _ => { team := 0, skills := [(1, 1)] }
  fac := fun _ => { wp := 0, name := 0, skills := [(0, 1)] }
  team := fun _ => { workers := [0, 1], targets := [0, 1, 2] }
  wp := fun _ => { facs := [0], targets := [0], cap := 1 }
  comp := fun _ => { tasks := [0], size := 1 }

/-- a mid-run live state of `exF`: task 0 WORKING with the pair (worker 0, facility 0) -/
def exFLive : Live :=
  { Live.empty with
    tstate := fun t => if t = 0 then .working else .none
    allocW := fun t => if t = 0 then [0] else []
    allocF := fun t => if t = 0 then [0] else []
    wstate := fun w => if w = 0 then .working else .free
    wasg := fun w => if w = 0 then [0] else []
    fstate := fun f => if f = 0 then .working else .free
    fasg := fun f => if f = 0 then [0] else [] }

def exFSt : St := { St.fresh with live := exFLive }

theorem exFSt_inv : EligInv exF exFSt.live := by decide +kernel

/-- two tasks; nobody has the skill for task 1 (its name 5 is in no skill map) -/
def exU : Model where
  nT := 2
  nW := 1
  nF := 0
  nTeam := 1
  nWp := 0
  nC := 0
  task := fun t =>
    match t with
    | 0 => { name := 0, work := 1 }
    | _ => { name := 5, work := 1 }
  worker := fun _ => { team := 0, skills := [(0, 1)] }
  fac := fun _ => {}
  team := fun _ => { workers := [0], targets := [0, 1] }
  wp := fun _ => {}
  comp := fun _ => {}

/-- the run of `exF` with the default parameters, evaluated once for the `example`s that quote it -/
theorem exF_run :
    (simulate exF {} St.fresh).status = .success ∧
    (∃ s' ∈ runTrace exF {} St.fresh, s'.live.allocW 0 = [0] ∧ s'.live.allocF 0 = [0]) ∧
    (∃ s' ∈ runTrace exF {} St.fresh, s'.live.allocW 1 = [1]) := by
  simp only [Fast.simulate_fast, Fast.runTrace_fast]; decide +kernel

/-- the run of `exU` to `max_time = 5`, evaluated once -/
theorem exU_run :
    (simulate exU { maxTime := 5 } St.fresh).status = .failure ∧
    (simulate exU { maxTime := 5 } St.fresh).live.tstate 0 = .finished ∧
    (simulate exU { maxTime := 5 } St.fresh).live.tstate 1 = .ready ∧
    (runTrace exU { maxTime := 5 } St.fresh).map (·.time) = [1, 2, 3, 4, 5] := by
  simp only [Fast.simulate_fast, Fast.runTrace_fast]; decide +kernel

end Elig
end PDesy
