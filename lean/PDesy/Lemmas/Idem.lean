/-
  PDesy.Lemmas.Idem — pause / resume (C15): pausing a run at `k` and resuming it gives the
  uninterrupted run as soon as `__update` is idempotent at the states the run visits
  (`resume_core`, at the level of `simulate`: `resume`); and `__update` is idempotent on its own
  output, phase by phase: `check_state(FINISHED)` has reached a fixpoint, `product.check_state`,
  `check_removing_placed_workplace` and `check_state(READY)` find nothing more to do, and the PERT
  recomputation reads nothing stale when no task with a finish-to-start successor has negative
  remaining work (`pert_idem`); that holds along a run when no such task has a finish gate (`GateOK`).
-/
import PDesy.Lemmas.Lifecycle
import PDesy.Lemmas.Perform
import PDesy.Lemmas.PertIdem

namespace PDesy

open Lifecycle Finish Perform

namespace Idem

/-- `Inv`: any invariant of the run under which `__update` is idempotent. -/
theorem resume_core (m : Model) (p : Params) (k : Nat) (hk : k ≤ p.maxTime) (Inv : St → Prop)
    (hupd : ∀ s, Inv s → Inv (updated m s))
    (hstep : ∀ s, Inv s → Inv (stepBody m p s))
    (hidem : ∀ s, Inv s → updated m (updated m s) = updated m s) (s : St) :
    Inv s → run m p (run m { p with maxTime := k } s) = run m p s := by
  induction s using run_induct m { p with maxTime := k } with
  | step s ih =>
    intro hs
    -- a pause at `s`: the resumed run starts by redoing the `__update`
    have hpause : ∀ x, run m p { updated m s with status := x } = run m p s := fun x => by
      rw [run_status, run_updated m p s (hidem s hs)]
    rw [run_step m { p with maxTime := k } s]
    by_cases hf : allFinished m (updated m s).live = true
    · rw [if_pos hf]; exact hpause _
    · rw [if_neg hf]
      by_cases ht : s.time ≥ k
      · rw [if_pos ht]; exact hpause _
      · rw [if_neg ht, run_step m p s, if_neg hf, if_neg fun h => ht (Nat.le_trans hk h)]
        exact ih ht (hstep _ (hupd _ hs))

theorem reenter (X : St) (a : List Nat) (b : Bool) (h1 : X.mode = .forward) (h2 : X.absence = a)
    (h3 : X.autoFlag = b) : ({ X with mode := .forward, absence := a, autoFlag := b } : St) = X := by
  cases X
  subst h1 h2 h3
  rfl

/-- A run leaves `mode`, `absence` and `autoFlag` as `enter` set them, so entering again without
initialisation is the identity. -/
theorem enter_run (m : Model) (p q r : Params) (s : St) (hs : q.initState = false)
    (hl : q.initLog = false) (ha : q.absence = p.absence) (hf : q.autoFlag = p.autoFlag) :
    enter m q (run m r (enter m p s)) = run m r (enter m p s) := by
  have e (X : St) :
      enter m q X = { X with mode := .forward, absence := p.absence, autoFlag := p.autoFlag } := by
    unfold enter initProject; rw [hs, hl, ha, hf]; rfl
  rw [e]
  apply reenter
  all_goals rw [run, loop_frame]; rfl

/-- `resume_core` for `simulate`: pause at `k ≤ M`, then resume with `initState = initLog = false`. -/
theorem resume (m : Model) (p : Params) (s : St) (k M : Nat) (hk : k ≤ M) (Inv : St → Prop)
    (hupd : ∀ s, Inv s → Inv (updated m s))
    (hstep : ∀ s, Inv s → Inv (stepBody m { p with maxTime := M } s))
    (hidem : ∀ s, Inv s → updated m (updated m s) = updated m s)
    (h0 : Inv (enter m { p with maxTime := M } s)) :
    simulate m { p with maxTime := M, initState := false, initLog := false }
        (simulate m { p with maxTime := k } s)
      = simulate m { p with maxTime := M } s := by
  -- the paused run and the uninterrupted run enter the loop with the same state
  have hX : simulate m { p with maxTime := k } s
      = run m { { p with maxTime := M } with maxTime := k } (enter m { p with maxTime := M } s) := rfl
  have hR : simulate m { p with maxTime := M } s
      = run m { p with maxTime := M } (enter m { p with maxTime := M } s) := rfl
  -- the resumed run enters its loop with the paused state itself
  rw [hR, hX, simulate_eq,
    enter_run m { p with maxTime := M } { p with maxTime := M, initState := false, initLog := false }
      _ s rfl rfl rfl rfl,
    loop_params m { p with maxTime := M }
      { p with maxTime := M, initState := false, initLog := false } rfl rfl rfl rfl]
  exact resume_core m { p with maxTime := M } k hk Inv hupd hstep hidem _ h0

/-! ### `check_state(FINISHED)` reaches a fixpoint -/

/-- no task below `m.nT` can be finished by `check_state(FINISHED)` -/
def NoCand (m : Model) (l : Live) : Prop :=
  ∀ t, t < m.nT → (finishCand l t && finishGate m l.tstate t) = false

variable (m : Model)

theorem noCand_iff (l : Live) : NoCand m l ↔ Stable m (List.range m.nT) l :=
  ⟨fun h t ht => h t (List.mem_range.mp ht), fun h t ht => h t (List.mem_range.mpr ht)⟩

theorem chkFinished_noCand (l : Live) : NoCand m (chkFinished m l) :=
  (noCand_iff m _).2 (chkFinished_stable l)

theorem chkFinished_of_noCand (l : Live) (h : NoCand m l) : chkFinished m l = l :=
  chkFinishedOrd_of_stable ((noCand_iff m l).1 h)

theorem NoCand_NR {l l' : Live} (h : NoCand m l) (hn : NR l.tstate l'.tstate) (hr : l'.rem = l.rem) :
    NoCand m l' := by
  intro t ht
  unfold finishCand
  rw [finishGate_congr m hn.gates, hn.working t, hr]
  exact h t ht

/-! ### `check_state(READY)`, `product.check_state`, `check_removing_placed_workplace`: each is the
identity exactly where it finds nothing to do, and finds nothing to do on its own output -/

theorem chkReady_eq_self_iff (x : Live) :
    chkReady m x = x ↔ ∀ t, t < m.nT → x.tstate t = .none → readyGate m x.tstate t = false := by
  constructor
  · intro h t ht h0
    have := chkReady_tstate m x t
    rw [h, h0] at this
    cases hg : readyGate m x.tstate t
    · rfl
    · simp [ht, hg] at this
  · intro h
    have : (fun t => if t < m.nT && x.tstate t == .none && readyGate m x.tstate t then TS.ready
        else x.tstate t) = x.tstate := funext fun t => ite_eq_right_iff.mpr fun hc => by
      simp only [Bool.and_eq_true, beq_iff_eq, decide_eq_true_eq] at hc
      rw [h t hc.1.1 hc.1.2] at hc
      exact absurd hc.2 (by decide)
    rw [chkReady_eq, this]

theorem chkReady_fix (l l' : Live) (h : l'.tstate = (chkReady m l).tstate) : chkReady m l' = l' :=
  (chkReady_eq_self_iff m l').2 fun t ht h0 => by
    rw [h] at h0 ⊢
    exact Bool.eq_false_iff.mpr fun hg => chkReady_complete m l t ht ⟨h0, hg⟩

theorem compNext_congr {l l' : Live} (ht : l'.tstate = l.tstate) (c : Nat)
    (hc : l'.cstate c = l.cstate c) : compNext m l' c = compNext m l c := by
  unfold compNext
  simp only [ht, hc]

/-- the rule is an if-chain over the task states with the old component state as its default -/
theorem compNext_compCheck (l : Live) (c : Nat) (hc : c < m.nC) :
    compNext m (compCheck m l) c = compNext m l c := by
  have e : (compCheck m l).cstate c = compNext m l c := by rw [compCheck_cstate, if_pos hc]
  rw [compNext, compCheck_tstate, e, compNext]
  generalize (m.comp c).tasks.map l.tstate = ts
  generalize ts.all (· == .finished) = a
  generalize ts.any (· == .working) = b
  generalize ts.all (· == .working) = w
  generalize ts.any (· == .ready) = r
  cases a <;> cases b <;> cases w <;> cases r <;> rfl

theorem compCheck_eq_self_iff (x : Live) :
    compCheck m x = x ↔ ∀ c, c < m.nC → compNext m x c = x.cstate c := by
  constructor
  · intro h c hc
    have := compCheck_cstate m x c
    rwa [h, if_pos hc, eq_comm] at this
  · intro h
    have : (fun c => if c < m.nC then compNext m x c else x.cstate c) = x.cstate :=
      funext fun c => ite_eq_right_iff.mpr (h c)
    rw [compCheck_eq, this]

theorem compCheck_fix (l l' : Live) (ht : l'.tstate = l.tstate)
    (hc : l'.cstate = (compCheck m l).cstate) : compCheck m l' = l' :=
  (compCheck_eq_self_iff m l').2 fun c hlt => by
    rw [compNext_congr m (show l'.tstate = (compCheck m l).tstate from ht) c (by rw [hc]),
      compNext_compCheck m l c hlt, hc, compCheck_cstate, if_pos hlt]

theorem chkRemove_eq_self_iff (x : Live) :
    chkRemove m x = x ↔ ∀ c, c < m.nC → removeCand m x c = false := by
  refine ⟨fun h c hc => ?_, fun h => ?_⟩
  · have hp := chkRemove_placed m x c
    rw [h] at hp
    cases hr : removeCand m x c
    · rfl
    · rw [if_pos ⟨hc, hr⟩] at hp
      simp [removeCand, hp] at hr
  · have : (List.range m.nC).filter (removeCand m x) = [] := by
      rw [List.filter_eq_nil_iff]
      intro c hc
      rw [h c (List.mem_range.mp hc)]; simp
    simp only [chkRemove, chkRemoveOrd, this, List.foldl_nil, tabN_eq]

theorem chkRemove_fix (l l' : Live) (hfin : ∀ t, (l'.tstate t == .finished) = (l.tstate t == .finished))
    (hp : l'.placed = (chkRemove m l).placed) : chkRemove m l' = l' := by
  refine (chkRemove_eq_self_iff m l').2 fun c hc => ?_
  have hpc : l'.placed c = if c < m.nC ∧ removeCand m l c = true then Option.none else l.placed c := by
    rw [hp, chkRemove_placed]
  -- a component the first pass removed is unplaced, hence no candidate; for the others candidacy
  -- reads `placed c` (unchanged) and which tasks are FINISHED (`hfin`)
  by_cases hr : removeCand m l c = true
  · rw [if_pos ⟨hc, hr⟩] at hpc
    simp [removeCand, hpc]
  · rw [if_neg (fun h => hr h.2)] at hpc
    have : removeCand m l' c = removeCand m l c := by
      simp only [removeCand, hpc, hfin]
    rw [this]; simpa using hr

end Idem

/-! ### a second `__update` only redoes the PERT part, so the block is idempotent on its own output
as soon as `pert` is -/

namespace Removal
open Idem
variable (m : Model)

/-- everything in `__update` before the PERT recomputation.  (`upd0`, `UpdFix` and their lemmas are
named in `Removal`, as the statements of Removal.lean and SlackShift.lean (C10) know them; they
stand here because this file and Order.lean use them too.) -/
def upd0 (m : Model) (l : Live) : Live :=
  compCheck m (chkReady m (chkRemove m (compCheck m (chkFinished m l))))

theorem update_eq (time : Nat) (l : Live) : update m time l = pert m time (upd0 m l) := rfl

theorem upd0_rem (l : Live) : (upd0 m l).rem = (chkFinished m l).rem := by
  unfold upd0
  rw [compCheck_rem, chkReady_rem, chkRemove_rem, compCheck_rem]

/-- what `__update` leaves behind: nothing to finish, components, placements and READY states
at their fixpoints -/
structure UpdFix (m : Model) (a : Live) : Prop where
  noCand : NoCand m a
  comp : compCheck m a = a
  remove : chkRemove m a = a
  ready : chkReady m a = a

theorem UpdFix.congr {a x : Live} (hu : UpdFix m a) (hts : x.tstate = a.tstate)
    (hr : x.rem = a.rem) (hcs : x.cstate = a.cstate) (hpl : x.placed = a.placed) : UpdFix m x := by
  refine ⟨NoCand_NR m hu.noCand (hts ▸ NR.refl _) hr, (compCheck_eq_self_iff m x).2 ?_,
    (chkRemove_eq_self_iff m x).2 ?_, (chkReady_eq_self_iff m x).2 ?_⟩
  · intro c hc
    rw [compNext_congr m hts c (by rw [hcs]), hcs]
    exact (compCheck_eq_self_iff m a).1 hu.comp c hc
  · intro c hc
    have : removeCand m x c = removeCand m a c := by unfold removeCand; rw [hpl, hts]
    rw [this]; exact (chkRemove_eq_self_iff m a).1 hu.remove c hc
  · rw [hts]; exact (chkReady_eq_self_iff m a).1 hu.ready

theorem UpdFix_upd0 (l : Live) : UpdFix m (upd0 m l) := by
  unfold upd0
  generalize chkFinished_noCand m l = hf
  generalize chkFinished m l = f at hf ⊢
  have hn : NR f.tstate (compCheck m (chkReady m (chkRemove m (compCheck m f)))).tstate := by
    have h := chkReady_NR m (chkRemove m (compCheck m f))
    rwa [chkRemove_tstate, compCheck_tstate, ← compCheck_tstate m (chkReady m _)] at h
  exact ⟨NoCand_NR m hf hn (by rw [compCheck_rem, chkReady_rem, chkRemove_rem, compCheck_rem]),
    compCheck_fix m _ _ (compCheck_tstate m _) rfl,
    chkRemove_fix m (compCheck m f) _ (fun t => hn.finished t) (by rw [compCheck_eq, chkReady_eq]),
    chkReady_fix m _ _ (compCheck_tstate m _)⟩

theorem UpdFix_update (time : Nat) (l : Live) : UpdFix m (update m time l) := by
  rw [update_eq]
  exact (UpdFix_upd0 m l).congr m (by rw [pert_frame]) (by rw [pert_frame]) (by rw [pert_frame])
    (by rw [pert_frame])

theorem UpdFix.upd0_eq {a : Live} (hu : UpdFix m a) : upd0 m a = a := by
  unfold upd0
  rw [chkFinished_of_noCand m a hu.noCand, hu.comp, hu.remove, hu.ready, hu.comp]

end Removal

namespace Idem
open Removal (upd0 update_eq)

variable (m : Model)

theorem update_update_eq_pert (time time' : Nat) (l : Live) :
    update m time' (update m time l) = pert m time' (update m time l) := by
  rw [update_eq m time', (Removal.UpdFix_update m time l).upd0_eq]

theorem update_idem_of_pert (time : Nat) (l : Live)
    (hpert : pert m time (pert m time (upd0 m l)) = pert m time (upd0 m l)) :
    update m time (update m time l) = update m time l := by
  rw [update_update_eq_pert, update_eq, hpert]

/-- `hwf`, `hnn`: needed by the PERT part only (`pert_idem`) -/
theorem update_idem (hwf : WF m) (time : Nat) (l : Live)
    (hnn : ∀ t, t < m.nT → FsSrc m t → 0 ≤ (chkFinished m l).rem t) :
    update m time (update m time l) = update m time l :=
  update_idem_of_pert m time l <| pert_idem m hwf time _ fun t ht hfs =>
    (Removal.upd0_rem m l) ▸ hnn t ht hfs

theorem updated_idem_of (s : St)
    (h : update m s.time (update m s.time s.live) = update m s.time s.live) :
    updated m (updated m s) = updated m s := by
  unfold updated
  rw [h]

/-! ### no negative remaining work where the PERT call reads it (at the tasks with a finish-to-start
successor), along a run: models in which no such task has a finish gate (`GateOK`) -/

def RemOK (m : Model) (l : Live) : Prop :=
  ∀ t, t < m.nT → l.tstate t ≠ .working → 0 ≤ l.rem t

/-- the model has no FF / SF links -/
def NoFinishGate (m : Model) : Prop :=
  ∀ t, t < m.nT → ∀ e ∈ (m.task t).inputs, e.2 = .fs ∨ e.2 = .ss

instance (m : Model) : Decidable (NoFinishGate m) := by unfold NoFinishGate; infer_instance

/-- no task has both a finish gate (an FF / SF predecessor) and a finish-to-start successor -/
def GateOK (m : Model) : Prop :=
  ∀ t, t < m.nT → FsSrc m t → ∀ e ∈ (m.task t).inputs, e.2 = .fs ∨ e.2 = .ss

instance (m : Model) : Decidable (GateOK m) := by unfold GateOK; infer_instance

theorem NoFinishGate.gateOK {m : Model} (h : NoFinishGate m) : GateOK m := fun t ht _ => h t ht

theorem NoFinishGate.of_fsOnly {m : Model} (h : PertSpec.FSOnly m) : NoFinishGate m :=
  fun t ht e he => Or.inl ((h t ht).1 e he)

/-- work amounts are non-negative and default progress is at most 1 -/
def WorkOK (m : Model) : Prop :=
  ∀ t, t < m.nT → 0 ≤ (m.task t).work ∧ (m.task t).prog ≤ 1

instance (m : Model) : Decidable (WorkOK m) := by unfold WorkOK; infer_instance

theorem RemOK_chkFinished (l : Live) (h : RemOK m l) : RemOK m (chkFinished m l) :=
  chkFinished_ind (RemOK m) (fun acc t _ _ _ _ ha t' ht' hw => by
    rw [Finish.finishOne_rem, upd_apply]
    split
    · exact Rat.le_refl
    · rename_i hne
      rw [Finish.finishOne_tstate, upd_other _ _ _ _ hne] at hw
      exact ha t' ht' hw) l h

/-- a task with an open finish gate that overshot is finished (and clamped to 0) at once, so
after `check_state(FINISHED)` its remaining work is not negative -/
theorem chkFinished_rem_nonneg_of_gate (l : Live) (h : RemOK m l) (t : Nat) (ht : t < m.nT)
    (hg : finishGate m (chkFinished m l).tstate t = true) : 0 ≤ (chkFinished m l).rem t := by
  by_cases hw : (chkFinished m l).tstate t = .working
  · exact Rat.le_of_lt ((chkFinished_stable l).rem_pos (List.mem_range.mpr ht) hw hg)
  · exact RemOK_chkFinished m l h t ht hw

theorem chkFinished_rem_nonneg (hng : GateOK m) (l : Live) (h : RemOK m l) :
    ∀ t, t < m.nT → FsSrc m t → 0 ≤ (chkFinished m l).rem t := fun t ht hfs =>
  chkFinished_rem_nonneg_of_gate m l h t ht (Lifecycle.finishGate_of_inputs m _ t (hng t ht hfs))

theorem chkFinished_rem_nonneg_noGate (hng : NoFinishGate m) (l : Live) (h : RemOK m l) :
    ∀ t, t < m.nT → 0 ≤ (chkFinished m l).rem t := fun t ht =>
  chkFinished_rem_nonneg_of_gate m l h t ht (Lifecycle.finishGate_of_inputs m _ t (hng t ht))

theorem RemOK_update (time : Nat) (l : Live) (h : RemOK m l) : RemOK m (update m time l) := by
  intro t ht hw
  rw [Perform.update_rem]
  refine RemOK_chkFinished m l h t ht fun hw' => hw ?_
  have := (update_NR m time l).working t
  rw [hw'] at this
  exact eq_of_beq this

/-- a step subtracts work from WORKING tasks only, and a WORKING task stays WORKING -/
theorem RemOK_stepBody (p : Params) (s : St) (h : RemOK m s.live) :
    RemOK m (stepBody m p s).live := by
  intro t ht hw
  rw [Perform.stepBody_tstate_preCost] at hw
  rw [Perform.stepBody_rem, if_neg fun hc => hw hc.2.1]
  exact h t ht fun h0 => hw ((Perform.preCost_start p s).working h0)

theorem updated_idem (hwf : WF m) (hng : GateOK m) (s : St) (h : RemOK m s.live) :
    updated m (updated m s) = updated m s :=
  updated_idem_of m s (update_idem m hwf s.time s.live (chkFinished_rem_nonneg m hng s.live h))

theorem initLive_rem_nonneg (hw : WorkOK m) (both : Bool) (l : Live) {t : Nat} (ht : t < m.nT) :
    0 ≤ (initLive m both l).rem t := by
  unfold initLive
  simp only [tabN_eq]
  exact Rat.mul_nonneg (hw t ht).1 ((Rat.le_iff_sub_nonneg _ 1).mp (hw t ht).2)

theorem RemOK_enter (hw : WorkOK m) (p : Params) (s : St) (h : p.initState = true) :
    RemOK m (enter m p s).live := by
  intro t ht _
  rw [enter_live, h, initProject_rem]
  exact initLive_rem_nonneg m hw p.initLog s.live ht

end Idem
end PDesy
