/-
  PDesy.Lemmas.PertShift — `update_PERT_data` computed `d` steps later on the same remaining work
  (C10).

  Forward pass: every `est` is `d` later on any graph with in-range links; on a consistent acyclic
  network without negative remaining work so is every `eft`.  Backward pass: a relaxation compares
  no value with an absolute number, so the pass is equivariant under a shift by any constant, for
  ANY link kinds and ANY remaining work (`brel_step`): `lst`, `lft` of two computations differ by
  `cpl' − cpl`, all total slacks change by the same constant, and that constant is `0` without
  negative remaining work.  Hence the comparison of `sort_task_list` is the same function for every
  rule but FIFO (`taskLe_pert_shift_dag`).
-/
import PDesy.Lemmas.PertIdem

namespace PDesy

open Idem PertSpec PertIdem Wave Order

/-- the fragment in which the backward pass is the textbook one: finish-to-start links only,
consistent in-range link lists, no cycle (the restriction on TSLACK in `C10_removal`; the lemmas
below need the last two clauses only, `SlackShift.DagOK`) -/
def Removal.SlackOK (m : Model) : Prop := FSOnly m ∧ GraphOK m ∧ Acyclic m

namespace SlackShift

variable {m : Model}

/-! what a relaxation proposes is built from sums and selections by comparison; both commute with
adding a constant -/

private theorem add_right_comm (a b c : Rat) : a + b + c = a + c + b := by
  rw [Rat.add_assoc, Rat.add_comm b, ← Rat.add_assoc]

private theorem ite_lt_add (x y u v d : Rat) :
    (if x + d < y + d then u + d else v + d) = (if x < y then u else v) + d := by
  simp only [Rat.add_lt_add_right]; split <;> rfl

private theorem add_sub_self (a b : Rat) : a + (b - a) = b := by rw [Rat.add_comm, Rat.sub_add_cancel]

theorem fwdCand_fst_shift (l : Live) {p p' : Pert} (i : Nat) (e : Nat × Dep) {d : Rat}
    (h : p'.est i = p.est i + d) : (fwdCand l p' i e).1 = (fwdCand l p i e).1 + d := by
  obtain ⟨nx, k⟩ := e
  cases k <;> simp only [fwdCand, h, add_right_comm _ d]

theorem fwdCand_snd_shift (l : Live) {p p' : Pert} (i : Nat) (e : Nat × Dep) {d : Rat}
    (h1 : p'.est i = p.est i + d) (h2 : p'.eft i = p.eft i + d) :
    (fwdCand l p' i e).2 = (fwdCand l p i e).2 + d := by
  obtain ⟨nx, k⟩ := e
  cases k <;> simp only [fwdCand, h1, h2, add_right_comm _ d, gt_iff_lt, ite_lt_add]

def EstShift (m : Model) (d : Rat) (p p' : Pert) : Prop := ∀ t, t < m.nT → p'.est t = p.est t + d

/-- one relaxation on two tables whose `est` are `d` apart: both take the same branch, so the `est`
stay `d` apart, and so do the `eft` if they were -/
theorem shift_relax (hwf : WF m) (l : Live) (d : Rat) (p p' : Pert) (i : Nat) (e : Nat × Dep)
    (hS : EstShift m d p p') (hi : i < m.nT) (he : e ∈ (m.task i).outputs) :
    EstShift m d (fwdRelax l p i e) (fwdRelax l p' i e) ∧
    ((∀ t, t < m.nT → p'.eft t = p.eft t + d) →
      ∀ t, t < m.nT → (fwdRelax l p' i e).eft t = (fwdRelax l p i e).eft t + d) := by
  have hc := fwdCand_fst_shift l i e (hS i hi)
  have hcases := fwdRelax_cases₂ l p p' i e
    (by rw [hc, hS e.1 ((hwf i hi).2 e he)]; exact Rat.add_le_add_right)
  refine ⟨fun t ht => ?_, fun hF t ht => ?_⟩
  · rcases hcases t with ⟨_, ⟨h1, _⟩, h2, _⟩ | ⟨rfl, ⟨h1, _⟩, h2, _⟩ <;> rw [h1, h2]
    · exact hS t ht
    · exact hc
  · rcases hcases t with ⟨_, ⟨_, h1⟩, _, h2⟩ | ⟨rfl, ⟨_, h1⟩, _, h2⟩ <;> rw [h1, h2]
    · exact hF t ht
    · exact fwdCand_snd_shift l i e (hS i hi) (hF i hi)

/-- whatever the kinds of the links: the `est` side of the pass never reads `eft` -/
theorem pertFwd_est_shift (hwf : WF m) (l l' : Live) (hr : l'.rem = l.rem) (time d : Rat) :
    ∀ t, t < m.nT → (pertFwd m (time + d) l').est t = (pertFwd m time l).est t + d :=
  pertFwd_pair m hr time (time + d) (EstShift m d) (fun _ _ _ => True)
    (fun p p' i e hS hi _ he => ⟨(shift_relax hwf l d p p' i e hS hi he).1, trivial, fun _ _ => trivial⟩)
    (fun t ht => by rw [fwdInit_est_lt ht, fwdInit_est_lt ht]) fun _ _ => trivial

theorem pert_est_shift (hwf : WF m) (l l' : Live) (hr : l'.rem = l.rem) (time d : Nat) :
    ∀ t, t < m.nT → (pert m (time + d) l').est t = (pert m time l).est t + (d : Rat) := by
  intro t ht
  rw [(pert_est_eft m hwf (time + d) l').1, (pert_est_eft m hwf time l).1, Rat.natCast_add]
  exact pertFwd_est_shift hwf l l' hr _ _ t ht

theorem all_fwdEvs (hok : GraphOK m) (hac : Acyclic m) :
    ∀ i, i < m.nT → ∀ e ∈ (m.task i).outputs, (i, e) ∈ fwdEvs m (m.nT + 1) (heads m) := by
  obtain ⟨rk, hrk⟩ := fwdRanked_of hok hac
  rw [fwdEvs_eq]
  exact all_evs (ordOK_canon _) hrk (heads_lt m) hok.head_or_target

theorem all_written (hok : GraphOK m) (hac : Acyclic m) (l : Live) (time : Rat)
    (hnn : ∀ t, t < m.nT → 0 ≤ l.rem t) :
    ∀ t, t < m.nT → (m.task t).inputs ≠ [] → FwdWrites m l time t := by
  intro t ht hne
  obtain ⟨e0, he0⟩ := List.exists_mem_of_ne_nil _ hne
  obtain ⟨hp, hout⟩ := (hok t ht).1 e0 he0
  have hmem := all_fwdEvs hok hac e0.1 hp (t, e0.2) hout
  refine Wr_of_mem l (e0.1, (t, e0.2)) _ (fwdInit m time l) hmem ?_
  have h1 := fwdCand_ge l (fwdInit m time l) e0.1 (t, e0.2) (fun _ => hnn e0.1 hp)
  rw [fwdInit_est_lt hp] at h1
  exact (fwdInit_est_lt ht).symm ▸ h1

/-- the forward pass forgets the old `eft` below `m.nT`: every task with a predecessor is written -/
theorem pertFwd_norm (hok : GraphOK m) (hac : Acyclic m) (l l' : Live) (time : Rat)
    (hr : l'.rem = l.rem) (hnn : ∀ t, t < m.nT → 0 ≤ l.rem t)
    (hest : ∀ t, ¬ t < m.nT → l'.est t = l.est t) (heft : ∀ t, ¬ t < m.nT → l'.eft t = l.eft t) :
    (pertFwd m time l').est = (pertFwd m time l).est ∧
    (pertFwd m time l').eft = (pertFwd m time l).eft := by
  refine pertFwd_congr m (fwdRanked_of hok hac) l l' time hr hest fun j hc hnw => ?_
  by_cases hj : j < m.nT
  · exact absurd (all_written hok hac l time hnn j hj fun h0 => hc ⟨hj, by rw [h0]; rfl⟩) hnw
  · exact heft j hj

theorem pertFwd_eft_shift (hok : GraphOK m) (hac : Acyclic m) (l l' : Live) (hr : l'.rem = l.rem)
    (hnn : ∀ t, t < m.nT → 0 ≤ l.rem t) (time d : Rat) :
    ∀ t, t < m.nT → (pertFwd m (time + d) l').eft t = (pertFwd m time l).eft t + d := by
  -- the later pass forgets its old `eft` below `m.nT`: give it those of the earlier one, plus `d`
  let l2 : Live := { l' with eft := fun t => if t < m.nT then l.eft t + d else l'.eft t }
  obtain ⟨-, h2⟩ := pertFwd_norm hok hac l' l2 (time + d) rfl (by rw [hr]; exact hnn) (fun _ _ => rfl)
    (fun t ht => if_neg ht)
  rw [← h2]
  refine (pertFwd_pair m (show l2.rem = l.rem from hr) time (time + d)
    (fun p p' => EstShift m d p p' ∧ ∀ t, t < m.nT → p'.eft t = p.eft t + d) (fun _ _ _ => True)
    (fun p p' i e hS hi _ he =>
      have h := shift_relax hok.wf l d p p' i e hS.1 hi he
      ⟨⟨h.1, h.2 hS.2⟩, trivial, fun _ _ => trivial⟩)
    ⟨fun t ht => by rw [fwdInit_est_lt ht, fwdInit_est_lt ht], fun t ht => ?_⟩ fun _ _ => trivial).2
  by_cases h0 : (m.task t).inputs.isEmpty = true
  · rw [fwdInit_eft_head ht h0, fwdInit_eft_head ht h0]
    show time + d + l'.rem t = time + l.rem t + d
    rw [hr, add_right_comm]
  · rw [fwdInit_eft_other fun h => h0 h.2, fwdInit_eft_other fun h => h0 h.2]; exact if_pos ht

/-- task `t` holds in the second table the `lft` / `lst` of the first one plus `c` -/
def GoodAt (c : Rat) (p p' : Pert) (t : Nat) : Prop :=
  p'.lft t = p.lft t + c ∧ p'.lst t = p.lst t + c

/-- the two tables have the same `calculated_task_set`, and every task in it holds values `c`
apart (nothing is said about a task that has not been set: the pass never reads its values) -/
def BRel (c : Rat) (p p' : Pert) : Prop :=
  p'.done = p.done ∧ ∀ t, p.done t = true → GoodAt c p p' t

theorem bwdCand_shift (l : Live) (p p' : Pert) (o : Nat) (e : Nat × Dep) (d : Rat)
    (h1 : p'.lft o = p.lft o + d) (h2 : p'.lst o = p.lst o + d) :
    (bwdCand l p' o e).1 = (bwdCand l p o e).1 + d ∧ (bwdCand l p' o e).2 = (bwdCand l p o e).2 + d := by
  obtain ⟨pv, k⟩ := e
  cases k <;>
    simp only [bwdCand, h1, h2, Rat.sub_eq_add_neg, add_right_comm _ d, ite_lt_add, and_self]

/-- the two relaxations take the same branch: the test is `pv not in calculated_task_set or
pre_lft >= lft`, no absolute number -/
theorem brel_step (l : Live) (c : Rat) (p p' : Pert) (o : Nat) (e : Nat × Dep)
    (hS : BRel c p p') (hG : GoodAt c p p' o) :
    BRel c (bwdRelax l p o e) (bwdRelax l p' o e) ∧
    GoodAt c (bwdRelax l p o e) (bwdRelax l p' o e) e.1 ∧
    ∀ t, GoodAt c p p' t → GoodAt c (bwdRelax l p o e) (bwdRelax l p' o e) t := by
  obtain ⟨c1, c2⟩ := bwdCand_shift l p p' o e c hG.1 hG.2
  -- the two acceptance tests agree
  have hcond : (p'.done e.1 = false ∨ p'.lft e.1 ≥ (bwdCand l p' o e).2) ↔
      (p.done e.1 = false ∨ p.lft e.1 ≥ (bwdCand l p o e).2) := by
    rw [hS.1]
    cases hd : p.done e.1 with
    | false => exact ⟨fun _ => Or.inl rfl, fun _ => Or.inl rfl⟩
    | true =>
      obtain ⟨g1, _⟩ := hS.2 e.1 hd
      rw [c2, g1]
      simp only [ge_iff_le, Rat.add_le_add_right]
  have hcases := bwdRelax_cases₂ l p p' o e hcond
  -- `t` is good afterwards if it was good before, where "before" may assume what the branch
  -- "nothing stored at `t`" of `hcases` knows (`done t` is unchanged; rejected, if `t` is the
  -- target); in the other branch `t` holds the two candidates, which are `c` apart.  The three uses
  -- below take "good before" from `hS` by the first fact, from `hS` by the second, from `hg`.
  have step : ∀ t, ((bwdRelax l p o e).done t = p.done t →
      (t = e.1 → ¬ (p.done e.1 = false ∨ p.lft e.1 ≥ (bwdCand l p o e).2)) → GoodAt c p p' t) →
      GoodAt c (bwdRelax l p o e) (bwdRelax l p' o e) t := by
    intro t hg
    unfold GoodAt
    rcases hcases t with ⟨hr, ⟨a1, a2, a3⟩, b1, b2, _⟩ | ⟨rfl, ⟨a1, a2, _⟩, b1, b2, _⟩ <;>
      rw [a1, a2, b1, b2]
    · exact hg a3 hr
    · exact ⟨c2, c1⟩
  refine ⟨⟨funext fun t => ?_, fun t ht => step t fun hd _ => hS.2 t (hd ▸ ht)⟩,
    step e.1 fun _ hr => hS.2 e.1 ?_, fun t hg => step t fun _ _ => hg⟩
  · rcases hcases t with ⟨_, ⟨_, _, a3⟩, _, _, b3⟩ | ⟨_, ⟨_, _, a3⟩, _, _, b3⟩ <;> rw [a3, b3]
    exact congrFun hS.1 t
  · cases hd : p.done e.1 with
    | false => exact absurd (Or.inl hd) (hr rfl)
    | true => rfl

/-- started from `cpl + c` instead of `cpl` the backward pass ends with every `lft`, `lst` below
`m.nT` exactly `c` later; the `est` / `eft` of the tables are not read at all.  (About the loop of
`pertBwd_eq` and not about `pertBwd`, because `cpl` is any number here, not the `maxList`.) -/
theorem pertBwd_shift (hok : GraphOK m) (hac : Acyclic m) (l l' : Live) (hr : l'.rem = l.rem)
    (p p' : Pert) (cpl c : Rat) :
    ∀ t, t < m.nT →
      GoodAt c
        (wLoop (canonSet m.nT) (ins m) (·.1) (bwdRelax l) (m.nT + 1) (tails m) (bwdInit m l cpl p))
        (wLoop (canonSet m.nT) (ins m) (·.1) (bwdRelax l') (m.nT + 1) (tails m)
          (bwdInit m l' (cpl + c) p')) t := by
  obtain ⟨rk, hrk⟩ := (dag_of hok hac).symm.ranked
  -- the tails hold `cpl`, `cpl − rem`; nothing is set
  have htl : ∀ x ∈ tails m, GoodAt c (bwdInit m l cpl p) (bwdInit m l' (cpl + c) p') x := by
    intro x hx
    refine ⟨by rw [bwdInit_lft_tail hx, bwdInit_lft_tail hx], ?_⟩
    rw [bwdInit_lst_tail hx, bwdInit_lst_tail hx, hr, Rat.sub_eq_add_neg, Rat.sub_eq_add_neg,
      add_right_comm]
  rw [bwdRelax_rem hr]
  obtain ⟨_, hg, hk⟩ := wLoop_pair (ordOK_canon m.nT) (bwdRelax l) (bwdRelax l) (BRel c) (GoodAt c)
    (fun p p' o e hS _ hG _ => brel_step l c p p' o e hS hG) (m.nT + 1) (tails m)
    (bwdInit m l cpl p) (bwdInit m l' (cpl + c) p') ⟨rfl, fun t ht => nomatch ht⟩
    (fun x hx => ⟨tails_lt m x hx, htl x hx⟩)
  -- every task is a tail or the target of a relaxation
  intro t ht
  rcases hok.tail_or_source t ht with h | ⟨o, ho, e, he, rfl⟩
  · exact hk t (htl t h)
  · exact hg _ (all_evs (ordOK_canon _) (hrk.of_map (out := ins m)) (tails_lt m) hok.tail_or_source
      o ho e he)

theorem pert_lst_shift (hok : GraphOK m) (hac : Acyclic m) (l l' : Live) (hr : l'.rem = l.rem)
    (time time' : Nat) :
    ∀ t, t < m.nT →
      (pert m time' l').lst t = (pert m time l).lst t + ((pert m time' l').cpl - (pert m time l).cpl) ∧
      (pert m time' l').lft t = (pert m time l).lft t + ((pert m time' l').cpl - (pert m time l).cpl) := by
  intro t ht
  have key := pertBwd_shift hok hac l l' hr (pertFwd m (time : Rat) l) (pertFwd m (time' : Rat) l')
    (pert m time l).cpl ((pert m time' l').cpl - (pert m time l).cpl) t ht
  rw [add_sub_self] at key
  rw [pert_eq m time l, pert_eq m time' l', pertBwd_eq, pertBwd_eq]
  exact ⟨key.2, key.1⟩

/-- The total slack of every task changes by the same amount `(cpl' − cpl) − d`.  It is `0` when no
remaining work is negative (`pert_slack_shift_nonneg`) and need not be otherwise: a task all of
whose forward relaxations are rejected keeps the `eft` of an earlier `update_PERT_data`, which
enters the critical path length. -/
theorem pert_slack_shift_dag (hok : GraphOK m) (hac : Acyclic m) (l l' : Live) (hr : l'.rem = l.rem)
    (time d : Nat) :
    ∀ t, t < m.nT → (pert m (time + d) l').lst t - (pert m (time + d) l').est t =
      (pert m time l).lst t - (pert m time l).est t +
        (((pert m (time + d) l').cpl - (pert m time l).cpl) - (d : Rat)) := by
  intro t ht
  rw [(pert_lst_shift hok hac l l' hr time (time + d) t ht).1,
    pert_est_shift hok.wf l l' hr time d t ht]
  grind only

theorem pert_cpl_shift_nonneg (hok : GraphOK m) (hac : Acyclic m) (l l' : Live) (hr : l'.rem = l.rem)
    (hnn : ∀ t, t < m.nT → 0 ≤ l.rem t) (time d : Nat) (hn : 0 < m.nT) :
    (pert m (time + d) l').cpl = (pert m time l).cpl + (d : Rat) := by
  have hsh := pertFwd_eft_shift hok hac l l' hr hnn (time : Rat) (d : Rat)
  have hmap : (tails m).map (pertFwd m ((time : Rat) + (d : Rat)) l').eft =
      ((tails m).map (pertFwd m (time : Rat) l).eft).map (· + (d : Rat)) := by
    rw [List.map_map]
    exact List.map_congr_left fun x hx => hsh x (tails_lt m x hx)
  rw [pert_cpl, pert_cpl, Rat.natCast_add, hmap]
  exact maxList_shift _ _ _ fun h => tails_ne_nil (dag_of hok hac) hn (List.map_eq_nil_iff.1 h)

theorem pert_shift_nonneg (hok : GraphOK m) (hac : Acyclic m) (l l' : Live) (hr : l'.rem = l.rem)
    (hnn : ∀ t, t < m.nT → 0 ≤ l.rem t) (time d : Nat) :
    ∀ t, t < m.nT → (pert m (time + d) l').est t = (pert m time l).est t + (d : Rat) ∧
      (pert m (time + d) l').lst t = (pert m time l).lst t + (d : Rat) := by
  intro t ht
  refine ⟨pert_est_shift hok.wf l l' hr time d t ht, ?_⟩
  rw [(pert_lst_shift hok hac l l' hr time (time + d) t ht).1,
    pert_cpl_shift_nonneg hok hac l l' hr hnn time d (Nat.zero_lt_of_lt ht)]
  grind only

theorem pert_slack_shift_nonneg (hok : GraphOK m) (hac : Acyclic m) (l l' : Live) (hr : l'.rem = l.rem)
    (hnn : ∀ t, t < m.nT → 0 ≤ l.rem t) (time d : Nat) :
    ∀ t, t < m.nT → (pert m (time + d) l').lst t - (pert m (time + d) l').est t =
      (pert m time l).lst t - (pert m time l).est t := by
  intro t ht
  obtain ⟨h1, h2⟩ := pert_shift_nonneg hok hac l l' hr hnn time d t ht
  rw [h1, h2]; grind only

theorem taskLe_of_key_shift (l l' : Live) (lg lg' : Logs) (rule : TaskRule) (c : Rat)
    (a b : Nat) (ha : taskKey m l' lg' rule a = taskKey m l lg rule a + c)
    (hb : taskKey m l' lg' rule b = taskKey m l lg rule b + c) :
    taskLe m l' lg' rule a b = taskLe m l lg rule a b := by
  unfold taskLe
  rw [ha, hb]
  simp only [Rat.add_le_add_right]

/-- the weakest restriction on TSLACK used below: consistent link lists, no cycle -/
abbrev DagOK (m : Model) : Prop := GraphOK m ∧ Acyclic m

/-- every key changes by one constant for all tasks (TSLACK: `pert_slack_shift_dag`) -/
theorem taskLe_pert_shift_dag (hwf : WF m) (rule : TaskRule) (hrule : rule ≠ .fifo)
    (l l' : Live) (hr : l'.rem = l.rem) (hsl : rule = .tslack → DagOK m)
    (time d : Nat) (lg lg' : Logs) (a b : Nat) (ha : a < m.nT) (hb : b < m.nT) :
    taskLe m (pert m (time + d) l') lg' rule a b = taskLe m (pert m time l) lg rule a b := by
  have hr0 : ∀ t, (pert m (time + d) l').rem t = (pert m time l).rem t + 0 := fun t => by
    show l'.rem t = l.rem t + 0; rw [hr, Rat.add_zero]
  have hcpl : (pert m (time + d) l').cpl =
      (pert m time l).cpl + ((pert m (time + d) l').cpl - (pert m time l).cpl) := (add_sub_self _ _).symm
  cases rule with
  | fifo => exact absurd rfl hrule
  | tslack =>
    obtain ⟨hok, hac⟩ := hsl rfl
    exact taskLe_of_key_shift _ _ lg lg' .tslack _ a b
      (pert_slack_shift_dag hok hac l l' hr time d a ha) (pert_slack_shift_dag hok hac l l' hr time d b hb)
  | est =>
    exact taskLe_of_key_shift _ _ lg lg' .est (d : Rat) a b
      (pert_est_shift hwf l l' hr time d a ha) (pert_est_shift hwf l l' hr time d b hb)
  | spt => exact taskLe_of_key_shift _ _ lg lg' .spt 0 a b (Rat.add_zero _).symm (Rat.add_zero _).symm
  | lpt => exact taskLe_of_key_shift _ _ lg lg' .lpt 0 a b (Rat.add_zero _).symm (Rat.add_zero _).symm
  | lrpt => exact taskLe_of_key_shift _ _ lg lg' .lrpt 0 a b (hr0 a) (hr0 b)
  | srpt => exact taskLe_of_key_shift _ _ lg lg' .srpt 0 a b (hr0 a) (hr0 b)
  | lwrpt => exact taskLe_of_key_shift _ _ lg lg' .lwrpt _ a b hcpl hcpl
  | swrpt => exact taskLe_of_key_shift _ _ lg lg' .swrpt _ a b hcpl hcpl

/-! Nothing in the library rests on what follows; the names are end results of the development and stay. -/

theorem pertFwd_lo (l : Live) (time : Rat) :
    ∀ t, t < m.nT → time ≤ (pertFwd m time l).est t := by
  rw [pertFwd_fold]
  exact List.foldlRecOn (motive := fun p : Pert => ∀ t, t < m.nT → time ≤ p.est t)
    (fwdEvs m (m.nT + 1) (heads m)) (evStep l) (fun t ht => by rw [fwdInit_est_lt ht]; exact Rat.le_refl)
    fun p hp ev _ t ht => Rat.le_trans (hp t ht) (le_fwdRelax_est l p ev.1 ev.2 t)

theorem fwdCand_span (l : Live) (p : Pert) (i : Nat) (e : Nat × Dep) :
    (fwdCand l p i e).1 + l.rem e.1 ≤ (fwdCand l p i e).2 := by
  obtain ⟨nx, d⟩ := e
  cases d <;> simp only [fwdCand] <;> grind only

theorem pertFwd_span (hok : GraphOK m) (hac : Acyclic m) (l : Live) (time : Rat)
    (hnn : ∀ t, t < m.nT → 0 ≤ l.rem t) :
    ∀ t, t < m.nT → (pertFwd m time l).est t + l.rem t ≤ (pertFwd m time l).eft t := by
  -- the pass forgets the old `eft` below `m.nT`: take old ones for which the claim holds at the start
  let l2 : Live := { l with eft := fun t => if t < m.nT then time + l.rem t else l.eft t }
  obtain ⟨h1, h2⟩ := pertFwd_norm hok hac l l2 time rfl hnn (fun _ _ => rfl)
    (fun t ht => if_neg ht)
  rw [← h1, ← h2, pertFwd_fold]
  refine List.foldlRecOn (motive := fun p : Pert => ∀ t, t < m.nT → p.est t + l.rem t ≤ p.eft t)
    (fwdEvs m (m.nT + 1) (heads m)) (evStep l2) ?_ ?_
  · intro t ht
    rw [fwdInit_est_lt ht]
    by_cases h0 : (m.task t).inputs.isEmpty = true
    · rw [fwdInit_eft_head ht h0]; exact Rat.le_refl
    · rw [fwdInit_eft_other fun h => h0 h.2, show l2.eft t = time + l.rem t from if_pos ht]; exact Rat.le_refl
  · intro p hp ev _ t ht
    rcases fwdRelax_cases l2 p ev.1 ev.2 t with ⟨h1, h2⟩ | ⟨rfl, _, h1, h2⟩ <;>
      rw [show evStep l2 p ev = fwdRelax l2 p ev.1 ev.2 from rfl, h1, h2]
    · exact hp t ht
    · exact fwdCand_span l2 p ev.1 ev.2

/-- every edge inequality holds for the final `est`, whatever the link kinds and the signs
(`Wave.foldl_edge` for the forward relaxation) -/
theorem pertFwd_edge (hok : GraphOK m) (hac : Acyclic m) (l : Live) (time : Rat) :
    ∀ o, o < m.nT → ∀ e ∈ (m.task o).inputs,
      (fwdCand l (pertFwd m time l) e.1 (o, e.2)).1 ≤ (pertFwd m time l).est o := by
  intro o ho e he
  obtain ⟨rk, hrk⟩ := fwdRanked_of hok hac
  obtain ⟨hp, hout⟩ := (hok o ho).1 e he
  -- one relaxation: no `est` goes down, only that of the target changes, and it is then at least
  -- what was proposed (no invariant, no set of good tasks: `S`, `Gd` and `P` are `True`)
  have hstep : ∀ (q : Pert) (ev : Ev), True → True → True →
      (True ∧ True ∧ (∀ x, True → True ∧ q.est x ≤ (evStep l q ev).est x) ∧
        ∀ x, x ≠ ev.2.1 → (evStep l q ev).est x = q.est x) ∧
      (fwdCand l q ev.1 ev.2).1 ≤ (evStep l q ev).est ev.2.1 := by
    intro q ev _ _ _
    refine ⟨⟨trivial, trivial, fun x _ => ⟨trivial, le_fwdRelax_est l q ev.1 ev.2 x⟩,
      fun x hx => (fwdRelax_other l q ev.1 ev.2 hx).1⟩, ?_⟩
    show _ ≤ (fwdRelax l q ev.1 ev.2).est ev.2.1
    by_cases hacc : (fwdCand l q ev.1 ev.2).1 ≥ q.est ev.2.1
    · rw [(fwdRelax_acc l q ev.1 ev.2 hacc).1]; exact Rat.le_refl
    · rw [fwdRelax_rej l q ev.1 ev.2 hacc]; exact Rat.le_of_lt (Rat.not_le.mp hacc)
  rw [pertFwd_fold]
  exact (Wave.foldl_edge (src := (·.1)) (tgt := (·.2.1)) (S := fun _ => True) (Gd := fun _ _ => True)
    (f := evStep l) (P := fun _ => True) (val := fun q x => q.est x)
    (c := fun q ev => (fwdCand l q ev.1 ev.2).1) hstep
    (fun q q' ev h => fwdCand_fst_congr l ev.1 ev.2 h) (fwdEvs m (m.nT + 1) (heads m))
    (fun ev hev => ⟨trivial, fwdEvs_noSelf m rk hrk ev hev⟩) (fwdEvs_recurs m rk hrk)
    (fwdInit m time l) trivial (fun _ _ _ _ => Or.inl trivial)).2
    (e.1, (o, e.2)) (all_fwdEvs hok hac e.1 hp (o, e.2) hout)

/-- out of a task with `E ≤ lst ≤ lft` a relaxation proposes `E ≤ lst ≤ lft` for its target, if `E`
satisfies the edge inequality of the link and the remaining work of the target is not negative -/
theorem bwdCand_bounds (l : Live) (p : Pert) (o : Nat) (e : Nat × Dep) (E : Nat → Rat)
    (hrem : 0 ≤ l.rem e.1) (h1 : E o ≤ p.lst o) (h2 : p.lst o ≤ p.lft o)
    (hedge : (match e.2 with | .fs => E e.1 + l.rem e.1 | _ => E e.1) ≤ E o) :
    E e.1 ≤ (bwdCand l p o e).1 ∧ (bwdCand l p o e).1 ≤ (bwdCand l p o e).2 := by
  obtain ⟨pv, k⟩ := e
  cases k <;> simp only [bwdCand] at * <;> grind only

end SlackShift
end PDesy
