/-
  PDesy.Lemmas.Finish — `check_state(FINISHED)` (`finishClosure`): one induction principle
  (`chkFinished_ind`; its first instance is the record equation `chkFinished_frame`), the relation
  between its input and its output (`Closes`), the fixpoint it reaches within `m.nT + 1` passes
  (`Stable`), which tasks it finishes (`chkFinished_finished_iff`), and independence of the visiting
  order: the FINISHED tasks are the least set closed under the finish rule.
-/
import PDesy.Lemmas.TaskState
import PDesy.Lemmas.Frame

namespace PDesy
namespace Finish
open Lifecycle

variable {m : Model}

def finStep (m : Model) (acc : Live) (t : Nat) : Live :=
  if finishCand acc t && finishGate m acc.tstate t then finishOne m acc t else acc

theorem finishPass_fold (order : List Nat) (l : Live) :
    finishPass m order l = order.foldl (finStep m) l := rfl

theorem guard_iff (l : Live) (t : Nat) :
    (finishCand l t && finishGate m l.tstate t) = true ↔
      l.tstate t = .working ∧ l.rem t ≤ 0 ∧ finishGate m l.tstate t = true := by
  simp [finishCand, and_assoc]

theorem finStep_pos {l : Live} {t : Nat} (h : (finishCand l t && finishGate m l.tstate t) = true) :
    finStep m l t = finishOne m l t := if_pos h

theorem finStep_neg {l : Live} {t : Nat} (h : (finishCand l t && finishGate m l.tstate t) = false) :
    finStep m l t = l := by unfold finStep; rw [h]; rfl

theorem chkFinishedOrd_fold (order : List Nat) (l : Live) :
    chkFinishedOrd m order l = finishClosure m order (m.nT + 1) l := by
  simp [chkFinishedOrd]

theorem chkFinished_fold (l : Live) :
    chkFinished m l = finishClosure m (List.range m.nT) (m.nT + 1) l := chkFinishedOrd_fold _ l

section ind
variable (P : Live → Prop) (order : List Nat)
  (hone : ∀ acc, ∀ t ∈ order, acc.tstate t = .working → acc.rem t ≤ 0 →
    finishGate m acc.tstate t = true → P acc → P (finishOne m acc t))
include hone

theorem finishClosure_ind : ∀ (fuel : Nat) (l : Live), P l → P (finishClosure m order fuel l) := by
  -- one pass is a fold whose step is `finishOne` under the guard
  have pass : ∀ l, P l → P (finishPass m order l) :=
    foldl_inv_mem (finStep m) P order fun acc t ht ha => by
      cases hc : (finishCand acc t && finishGate m acc.tstate t)
      · rw [finStep_neg hc]; exact ha
      · obtain ⟨h1, h2, h3⟩ := (guard_iff acc t).1 hc
        rw [finStep_pos hc]; exact hone acc t ht h1 h2 h3 ha
  intro fuel
  induction fuel with
  | zero => exact fun _ hl => hl
  | succ n ih =>
    intro l hl
    simp only [finishClosure]
    split
    · exact pass _ hl
    · exact ih _ (pass _ hl)

theorem chkFinishedOrd_ind (l : Live) (h : P l) : P (chkFinishedOrd m order l) := by
  rw [chkFinishedOrd_fold]; exact finishClosure_ind P order hone _ l h

end ind

theorem chkFinished_ind (P : Live → Prop)
    (hone : ∀ acc t, t < m.nT → acc.tstate t = .working → acc.rem t ≤ 0 →
      finishGate m acc.tstate t = true → P acc → P (finishOne m acc t))
    (l : Live) (h : P l) : P (chkFinished m l) :=
  chkFinishedOrd_ind P _ (fun acc t ht => hone acc t (List.mem_range.mp ht)) l h

theorem chkFinished_frame (l : Live) :
    chkFinished m l =
      { l with tstate := (chkFinished m l).tstate, rem := (chkFinished m l).rem,
               allocW := (chkFinished m l).allocW, allocF := (chkFinished m l).allocF,
               wstate := (chkFinished m l).wstate, wasg := (chkFinished m l).wasg,
               fstate := (chkFinished m l).fstate, fasg := (chkFinished m l).fasg } :=
  chkFinished_ind
    (fun a => a = { l with tstate := a.tstate, rem := a.rem, allocW := a.allocW, allocF := a.allocF,
                           wstate := a.wstate, wasg := a.wasg, fstate := a.fstate, fasg := a.fasg })
    (fun a t _ _ _ _ ha => by rw [finishOne_eq, ha]) l rfl

theorem finishOne_tstate (l : Live) (t : Nat) :
    (finishOne m l t).tstate = upd l.tstate t .finished := by rw [finishOne_eq]

theorem finishOne_rem (l : Live) (t : Nat) : (finishOne m l t).rem = upd l.rem t 0 := by
  rw [finishOne_eq]

/-- `b` arises from `a` by finishing WORKING tasks with remaining work ≤ 0, which is then set to 0 -/
def Closes (a b : Live) : Prop :=
  ∀ t, (b.tstate t = a.tstate t ∧ b.rem t = a.rem t) ∨
    (a.tstate t = .working ∧ a.rem t ≤ 0 ∧ b.tstate t = .finished ∧ b.rem t = 0)

theorem Closes.refl (a : Live) : Closes a a := fun _ => Or.inl ⟨rfl, rfl⟩

theorem Closes.trans {a b c : Live} (h1 : Closes a b) (h2 : Closes b c) : Closes a c := by
  intro t
  rcases h1 t with ⟨h1, g1⟩ | ⟨h1, g1, k1, j1⟩ <;>
    rcases h2 t with ⟨h2, g2⟩ | ⟨h2, g2, k2, j2⟩
  · left; exact ⟨h2.trans h1, g2.trans g1⟩
  · right; exact ⟨h1 ▸ h2, g1 ▸ g2, k2, j2⟩
  · right; exact ⟨h1, g1, h2.trans k1, g2.trans j1⟩
  · rw [k1] at h2; cases h2

theorem Closes.finishOne (l : Live) (t : Nat) (h1 : l.tstate t = .working) (h2 : l.rem t ≤ 0) :
    Closes l (finishOne m l t) := by
  intro t'
  rw [finishOne_tstate, finishOne_rem]
  by_cases ht : t' = t
  · subst ht; right; exact ⟨h1, h2, by simp, by simp⟩
  · left; simp [ht]

theorem Closes.antisymm {a b : Live} (hab : Closes a b) (hba : Closes b a) (t : Nat) :
    a.tstate t = b.tstate t ∧ a.rem t = b.rem t := by
  rcases hab t with ⟨e1, e2⟩ | ⟨a1, _, b1, _⟩
  · exact ⟨e1.symm, e2.symm⟩
  · rcases hba t with ⟨e1, _⟩ | ⟨b2, _⟩
    · rw [e1, b1] at a1; cases a1
    · rw [b1] at b2; cases b2

theorem finishClosure_closes (order : List Nat) (fuel : Nat) (l : Live) :
    Closes l (finishClosure m order fuel l) :=
  finishClosure_ind (Closes l) order
    (fun acc t _ h1 h2 _ ha => ha.trans (Closes.finishOne acc t h1 h2)) fuel l (Closes.refl l)

theorem chkFinished_closes (m : Model) (l : Live) : Closes l (chkFinished m l) := by
  rw [chkFinished_fold]; exact finishClosure_closes _ _ l

theorem Closes.mono {a b : Live} (h : Closes a b) : Mono a.tstate b.tstate :=
  Mono.of_cases fun t => (h t).imp (·.1) fun ⟨_, _, e, _⟩ => e ▸ rank_le_finished _

/-- the gate is read at the end: what a task passed is still open there, by `finishGate_mono` -/
theorem chkFinished_gated (l : Live) :
    ∀ t, (chkFinished m l).tstate t = .finished →
      l.tstate t = .finished ∨ finishGate m (chkFinished m l).tstate t = true := by
  refine chkFinished_ind
    (fun acc => ∀ t, acc.tstate t = .finished →
      l.tstate t = .finished ∨ finishGate m acc.tstate t = true)
    (fun acc t _ hw hr hg h t' hf => ?_) l (fun _ h => Or.inl h)
  have hmono := (Closes.finishOne (m := m) acc t hw hr).mono
  by_cases h0 : acc.tstate t' = .finished
  · exact (h t' h0).imp id (finishGate_mono m hmono t')
  · rw [finishOne_tstate] at hf
    by_cases ht : t' = t
    · subst ht; exact Or.inr (finishGate_mono m hmono _ hg)
    · rw [upd_other _ _ _ _ ht] at hf; exact absurd hf h0

/-- no task of `order` can be finished -/
def Stable (m : Model) (order : List Nat) (l : Live) : Prop :=
  ∀ t ∈ order, (finishCand l t && finishGate m l.tstate t) = false

theorem finishClosure_of_stable {order : List Nat} {l : Live} (h : Stable m order l) (fuel : Nat) :
    finishClosure m order fuel l = l := by
  have pass : finishPass m order l = l :=
    foldl_inv_mem (finStep m) (· = l) order (fun b t ht hb => by rw [hb, finStep_neg (h t ht)]) l rfl
  cases fuel with
  | zero => rfl
  | succ n => simp only [finishClosure, pass, if_true]

theorem chkFinishedOrd_of_stable {order : List Nat} {l : Live} (h : Stable m order l) :
    chkFinishedOrd m order l = l := by
  rw [chkFinishedOrd_fold, finishClosure_of_stable h]

theorem finishedCount_eq (n : Nat) (l : Live) :
    finishedCount n l = (List.range n).countP (fun t => l.tstate t == .finished) := by
  unfold finishedCount; rw [List.countP_eq_length_filter]

theorem finishedCount_le (n : Nat) (l : Live) : finishedCount n l ≤ n := by
  rw [finishedCount_eq]
  exact Nat.le_trans List.countP_le_length (by simp)

theorem finishedCount_mono (n : Nat) {a b : Live} (h : Mono a.tstate b.tstate) :
    finishedCount n a ≤ finishedCount n b := by
  rw [finishedCount_eq, finishedCount_eq]
  apply List.countP_mono_left
  intro t _ ht
  simp only [beq_iff_eq] at ht ⊢
  exact Mono.finished h ht

theorem finishedCount_finishOne (n : Nat) (l : Live) (t : Nat) (ht : t < n)
    (h0 : l.tstate t ≠ .finished) : finishedCount n l < finishedCount n (finishOne m l t) := by
  rw [finishedCount_eq, finishedCount_eq, finishOne_tstate]
  refine countP_lt_of_mem (fun x _ hx => ?_) (List.mem_range.mpr ht) (beq_false_of_ne h0)
    (by rw [upd_same]; rfl)
  rw [upd_apply]; split
  · rfl
  · exact hx

theorem finishClosure_one (order : List Nat) (l : Live) :
    finishClosure m order 1 l = finishPass m order l := by
  simp only [finishClosure, ite_self]

theorem finishPass_count_lt (n : Nat) {order : List Nat} (ho : ∀ t ∈ order, t < n) (l : Live)
    (h : ¬ Stable m order l) : finishedCount n l < finishedCount n (finishPass m order l) := by
  rw [finishPass_fold]
  induction order generalizing l with
  | nil => exact absurd (fun _ h => nomatch h) h
  | cons t ts ih =>
    rw [List.foldl_cons]
    have hts : ∀ t' ∈ ts, t' < n := fun t' h => ho t' (List.mem_cons_of_mem _ h)
    cases hc : (finishCand l t && finishGate m l.tstate t)
    · rw [finStep_neg hc]
      exact ih hts l fun hs => h (List.forall_mem_cons.mpr ⟨hc, hs⟩)
    · -- the first task that can be finished is finished, and the rest of the pass takes nothing back
      have hw := ((guard_iff l t).1 hc).1
      have h1 := finishedCount_finishOne (m := m) n l t (ho t (List.mem_cons_self ..))
        (by rw [hw]; nofun)
      have h2 : Closes (finishOne m l t) (finishPass m ts (finishOne m l t)) :=
        finishClosure_one ts _ ▸ finishClosure_closes ts 1 _
      rw [finStep_pos hc]
      exact Nat.lt_of_lt_of_le h1 (finishedCount_mono n h2.mono)

/-- every pass but the last raises `finishedCount m.nT`, which is at most `m.nT` -/
theorem finishClosure_stable {order : List Nat} (ho : ∀ t ∈ order, t < m.nT) :
    ∀ (fuel : Nat) (l : Live), m.nT < finishedCount m.nT l + fuel →
      Stable m order (finishClosure m order fuel l) := by
  intro fuel
  induction fuel with
  | zero => exact fun l h => absurd (Nat.lt_of_lt_of_le h (finishedCount_le m.nT l)) (Nat.lt_irrefl _)
  | succ k ih =>
    intro l h
    by_cases hs : Stable m order l
    · rw [finishClosure_of_stable hs]; exact hs
    · have hlt := finishPass_count_lt m.nT ho l hs
      simp only [finishClosure]
      rw [if_neg (Nat.ne_of_gt hlt)]
      exact ih _ (Nat.lt_of_le_of_lt (Nat.le_of_lt_succ h) (Nat.add_lt_add_right hlt k))

theorem chkFinished_stable (l : Live) : Stable m (List.range m.nT) (chkFinished m l) := by
  rw [chkFinished_fold]
  exact finishClosure_stable (fun _ h => List.mem_range.mp h) _ l (Nat.lt_add_left _ (Nat.lt_succ_self _))

theorem Stable.rem_pos {order : List Nat} {l : Live} (h : Stable m order l) {t : Nat}
    (ht : t ∈ order) (hw : l.tstate t = .working) (hg : finishGate m l.tstate t = true) :
    0 < l.rem t := by
  have hc := h t ht
  rw [hg, Bool.and_true] at hc
  simp only [finishCand, hw, beq_self_eq_true, Bool.true_and, decide_eq_false_iff_not] at hc
  exact Rat.not_le.mp hc

theorem chkFinished_complete (l : Live) (t : Nat) (ht : t < m.nT) :
    ¬ ((chkFinished m l).tstate t = .working ∧ (chkFinished m l).rem t ≤ 0 ∧
       finishGate m (chkFinished m l).tstate t = true) :=
  fun ⟨h1, h2, h3⟩ =>
    Rat.not_le.mpr ((chkFinished_stable l).rem_pos (List.mem_range.mpr ht) h1 h3) h2

theorem chkFinished_sound (l : Live) (t : Nat) (h0 : l.tstate t ≠ .finished)
    (h1 : (chkFinished m l).tstate t = .finished) :
    l.tstate t = .working ∧ l.rem t ≤ 0 ∧
    finishGate m (chkFinished m l).tstate t = true ∧ (chkFinished m l).rem t = 0 := by
  rcases chkFinished_closes m l t with ⟨h2, _⟩ | ⟨h2, h3, _, h5⟩
  · exact absurd (h2 ▸ h1) h0
  · exact ⟨h2, h3, (chkFinished_gated l t h1).resolve_left h0, h5⟩

theorem chkFinished_finished_iff (l : Live) (t : Nat) (ht : t < m.nT) (h0 : l.tstate t ≠ .finished) :
    (chkFinished m l).tstate t = .finished ↔
      (l.tstate t = .working ∧ l.rem t ≤ 0 ∧ finishGate m (chkFinished m l).tstate t = true) := by
  refine ⟨fun h1 => ?_, fun ⟨h1, h2, h3⟩ => ?_⟩
  · obtain ⟨a, b, c, _⟩ := chkFinished_sound l t h0 h1
    exact ⟨a, b, c⟩
  · rcases chkFinished_closes m l t with ⟨e1, e2⟩ | ⟨_, _, h, _⟩
    · -- left as it was, `t` could still be finished
      exact absurd ⟨e1.trans h1, e2 ▸ h2, h3⟩ (chkFinished_complete l t ht)
    · exact h

/-- The result `r` along `o₂` is closed under the finish rule (`Stable`), so every task finished on
the way along `o₁ ⊆ o₂` is FINISHED in `r` already. -/
theorem finishClosure_sub (o₁ o₂ : List Nat) (hsub : ∀ t ∈ o₁, t ∈ o₂) (h2 : ∀ t ∈ o₂, t < m.nT)
    (f₁ : Nat) (l : Live) :
    Closes (finishClosure m o₁ f₁ l) (finishClosure m o₂ (m.nT + 1) l) := by
  generalize hr : finishClosure m o₂ (m.nT + 1) l = r
  have hst : Stable m o₂ r := hr ▸ finishClosure_stable h2 _ l (Nat.lt_add_left _ (Nat.lt_succ_self _))
  refine finishClosure_ind (fun acc => Closes acc r) o₁ (fun acc x hx c1 c2 c3 hC y => ?_) f₁ l
    (hr ▸ finishClosure_closes o₂ _ l)
  rw [finishOne_tstate, finishOne_rem, upd_apply, upd_apply]
  by_cases e : y = x
  · subst e
    rw [if_pos rfl, if_pos rfl]
    rcases hC y with ⟨b1, b2⟩ | ⟨_, _, b3, b4⟩
    · -- `y` would still be a candidate in `r`, whose states are ahead of `acc`'s
      have := hst.rem_pos (hsub y hx) (b1.trans c1) (finishGate_mono m hC.mono y c3)
      rw [b2] at this
      exact absurd c2 (Rat.not_le.mpr this)
    · exact Or.inl ⟨b3, b4⟩
  · rw [if_neg e, if_neg e]; exact hC y

theorem chkFinishedOrd_order_indep (o₁ o₂ : List Nat) (hm : ∀ t, t ∈ o₁ ↔ t ∈ o₂) (h1 : ∀ t ∈ o₁, t < m.nT)
    (l : Live) :
    (chkFinishedOrd m o₁ l).tstate = (chkFinishedOrd m o₂ l).tstate ∧
    (chkFinishedOrd m o₁ l).rem = (chkFinishedOrd m o₂ l).rem := by
  have h2 : ∀ t ∈ o₂, t < m.nT := fun t ht => h1 t ((hm t).mpr ht)
  rw [chkFinishedOrd_fold, chkFinishedOrd_fold]
  have c := (finishClosure_sub o₁ o₂ (fun t ht => (hm t).mp ht) h2 _ l).antisymm
    (finishClosure_sub o₂ o₁ (fun t ht => (hm t).mpr ht) h1 _ l)
  exact ⟨funext fun t => (c t).1, funext fun t => (c t).2⟩

end Finish
end PDesy
