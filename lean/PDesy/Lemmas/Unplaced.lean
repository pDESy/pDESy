/-
  PDesy.Lemmas.Unplaced — the "still unplaced" clause of "no avoidable waiting" (C06): a READY
  task alone on a component that is not placed after an allocation pass.  At the turn of the task
  step 3-1 searched all its workplaces and found none (`Turn.unplaced`).  Read after the pass the
  same holds if nothing was moved in the pass, in a ghost form (`Place.passMoves … = []`:
  `Turn.placeOk_still`) and in an observable form (every component is where it was:
  `Turn.placeOk_same`).
-/
import PDesy.Lemmas.NoWait

namespace PDesy
namespace Unplaced

open NoWait

/-- the accumulator with which the loop of `allocate m lg rule l` reaches task `t` -/
def turnAcc (m : Model) (lg : Logs) (rule : TaskRule) (l : Live) (t : Nat) : Alloc :=
  ((sortTasks m l lg rule (cands m l)).takeWhile (· != t)).foldl (allocTask m)
    { l := l, free := Elig.freeOf m l }

def turnState (m : Model) (lg : Logs) (rule : TaskRule) (l : Live) (t : Nat) : Live :=
  (turnAcc m lg rule l t).l

theorem isReady_single {m : Model} {l : Live} {c t : Nat} (hsingle : (m.comp c).tasks = [t])
    (hs : l.tstate t = .ready) (hnoW : l.allocW t = []) : isReady m l c = true := by
  unfold isReady
  simp [hsingle, hs, hnoW]

variable {m : Model} {lg : Logs} {rule : TaskRule} {l : Live} {pre post : List Nat} {t : Nat}
  {a0 a1 b : Alloc}

theorem _root_.PDesy.Turn.turnState_eq (h : Turn m lg rule l pre t post a0 a1 b) :
    turnState m lg rule l t = a0.l := by
  unfold turnState turnAcc
  rw [h.cut,
    List.takeWhile_append_of_pos fun x hx => by simpa using fun (e : x = t) => h.once.1 (e ▸ hx),
    List.takeWhile_cons_of_neg (by simp), List.append_nil, h.start]

theorem _root_.PDesy.Turn.passMoves_eq (h : Turn m lg rule l pre t post a0 a1 b) :
    Place.passMoves m lg rule l = b.moved := by
  rw [Place.passMoves_eq, h.cut, List.foldl_append, List.foldl_cons, ← h.start, ← h.turn,
    ← h.finish]

theorem _root_.PDesy.Turn.unplaced (h : Turn m lg rule l pre t post a0 a1 b) {c : Nat}
    (hs : l.tstate t = .ready) (hnoW : l.allocW t = []) (hc : (m.task t).comp = some c)
    (honly : Pairs.OnlyTask m c t) (hsingle : (m.comp c).tasks = [t])
    (hpl : (allocate m lg rule l).placed c = Option.none) :
    ∀ p ∈ (m.task t).wps, placeOk m a0.l t c p = false := by
  rw [h.result, h.after.pass.placed_other c (h.only honly).2, h.turn,
    (allocTask_placing m a0 t).1] at hpl
  rcases allocHead_cases m a0 t with ⟨_, hno⟩ | ⟨c', p, hc', _, _, _, _, e⟩
  · refine hno c hc (fun hm => ?_) (isReady_single hsingle ?_ ?_)
    · -- a component enters `moved` only at the turn of one of its own tasks
      rcases h.before.pass.moved_sub c hm with hm | ⟨t', ht', hc'⟩
      · cases hm
      · exact (h.only honly).1 t' ht' hc'
    · rw [h.before.pass.tstate]; exact hs
    · rw [h.before.pass.otherW t h.once.1]; exact hnoW
  · -- moved, the component is placed
    rw [e, moveComp_placed, Option.some.inj (hc.symm.trans hc'), upd_same] at hpl
    cases hpl

/-- ghost form of "nothing was moved in the pass" -/
theorem _root_.PDesy.Turn.placeOk_still (h : Turn m lg rule l pre t post a0 a1 b)
    (hnm : Place.passMoves m lg rule l = []) (c p : Nat) :
    placeOk m (allocate m lg rule l) t c p = placeOk m a0.l t c p := by
  -- the `moved` list, empty at the end, was empty at the turn of `t`
  have hb : b.moved = [] := h.passMoves_eq.symm.trans hnm
  obtain ⟨e1, e2⟩ := h.rest.pass.still
    (hb.trans (List.prefix_nil.mp (hb ▸ h.rest.pass.moved)).symm)
  rw [h.result]
  exact Place.placeOk_congr (congrFun e1 c) fun _ => Place.availSpace_congr (congrFun e2 p)

/-- observable form; the pass may have put a component back where it was, which changes at most
the order of a workplace's list -/
theorem _root_.PDesy.Turn.placeOk_same (h : Turn m lg rule l pre t post a0 a1 b)
    (wf : Place.PlaceWF m) (hinv : Place.Inv m l)
    (hsame : ∀ c', c' < m.nC → (allocate m lg rule l).placed c' = l.placed c') {c : Nat}
    (hc : c < m.nC) (p : Nat) :
    placeOk m (allocate m lg rule l) t c p = placeOk m a0.l t c p := by
  have hi0 := hinv.reach wf (fun t' ht' => h.lt (List.mem_append_left _ ht')) h.before
  have hib := hi0.reach wf (fun t' ht' => h.lt (List.mem_append_right _ ht')) h.rest
  have hm0 := (Place.MoveInv.start m l _).reach h.before
  -- at the turn of `t` every component is where it is at the end: moved before the turn, it is
  -- not moved again; not moved yet, it is where it was before the pass
  have e : ∀ c', c' < m.nC → b.l.placed c' = a0.l.placed c' := fun c' hc' => by
    by_cases hm : c' ∈ a0.moved
    · exact h.rest.pass.placed_moved c' hm
    · rw [hm0.same c' hm, ← hsame c' hc', h.result]
  rw [h.result]
  exact Place.placeOk_congr (e c hc) fun hq =>
    Place.availSpace_of_placed hi0.toPlaceInv hib.toPlaceInv e hq

end Unplaced
end PDesy
