/-
  PDesy.Lemmas.Live — the liveness half of "every feasible project completes", by a measure that
  decreases with every iteration of the loop (C05).

  `phi m l t` = lifecycle stages ahead of task `t` (3 for NONE … 0 for FINISHED) + `⌈rem t / δ_t⌉`,
  where `δ_t = delta m t` is the rate of an automatic task and the least skill among the eligible
  workers otherwise; `mu m p R s` = project absence steps to come + individual absence steps to
  come of the workers relied upon (`R`) + `Σ_{t < nT} phi`.

  In fragment LG (`FragLG`; the fragments of the property files are instances, LiveGate.lean) no
  iteration increases a summand, and an iteration that does not end the loop decreases one
  (`mu_iter_lt`).  On a project absence step it is the first.  Otherwise take a rank-minimal
  unfinished task `t`: after `__update` it is READY or WORKING with both gates open
  (`exists_open`).  If `t` is automatic it progresses by its rate.  Else take its eligible
  relied-upon worker `w`.  If `w` is absent now, the second summand drops.  If `w` is FREE at the
  end of the step, C06 (c) says that `t` has refused it, which only a solo worker explains, and then
  `t` holds somebody (`canAdd_refused`).  Otherwise some task holds `w`; it is WORKING and loses at
  least `w`'s skill (`worker_progress`, by C02, C03, C04), and its finish gate is open, since by
  `FragLG.served` it is `t` or a task without finish gate.  Hence the loop leaves through SUCCESS
  within `mu` iterations (`loop_success`), and `mu ≤ bound` after `initialize` (`mu_enter_le`).
-/
import PDesy.Lemmas.Auto
import PDesy.Lemmas.Elig

namespace PDesy
namespace Live_
open Elig

def sumTo : Nat → (Nat → Nat) → Nat
  | 0, _ => 0
  | n + 1, f => sumTo n f + f n

theorem sumTo_le {n : Nat} {f g : Nat → Nat} (h : ∀ i, i < n → f i ≤ g i) : sumTo n f ≤ sumTo n g := by
  induction n with
  | zero => exact Nat.le_refl _
  | succ n ih =>
    exact Nat.add_le_add (ih fun i hi => h i (Nat.lt_succ_of_lt hi)) (h n (Nat.lt_succ_self n))

theorem sumTo_lt {n : Nat} {f g : Nat → Nat} (h : ∀ i, i < n → f i ≤ g i)
    (k : Nat) (hk : k < n) (hlt : f k + 1 ≤ g k) : sumTo n f + 1 ≤ sumTo n g := by
  induction n with
  | zero => cases hk
  | succ n ih =>
    have h' : ∀ i, i < n → f i ≤ g i := fun i hi => h i (Nat.lt_succ_of_lt hi)
    show sumTo n f + f n + 1 ≤ sumTo n g + g n
    rcases Nat.lt_succ_iff_lt_or_eq.mp hk with hk | rfl
    · rw [Nat.add_right_comm]
      exact Nat.add_le_add (ih h' hk) (h n (Nat.lt_succ_self n))
    · rw [Nat.add_assoc]
      exact Nat.add_le_add (sumTo_le h') hlt

theorem sumTo_eq_zero {n : Nat} {f : Nat → Nat} (h : ∀ i, i < n → f i = 0) : sumTo n f = 0 := by
  induction n with
  | zero => rfl
  | succ n ih =>
    show sumTo n f + f n = 0
    rw [ih fun i hi => h i (Nat.lt_succ_of_lt hi), h n (Nat.lt_succ_self n)]

/-- the absence steps of `xs` still to come at time `τ` -/
def absLeft (xs : List Nat) (τ : Nat) : Nat := (xs.filter fun x => decide (τ ≤ x)).length

theorem absLeft_le_length (xs : List Nat) (τ : Nat) : absLeft xs τ ≤ xs.length :=
  List.length_filter_le _ _

theorem absLeft_succ (xs : List Nat) (τ : Nat) :
    absLeft xs τ = absLeft xs (τ + 1) + xs.count τ := by
  unfold absLeft
  -- the entries `≥ τ`, split into those `≥ τ + 1` and the occurrences of `τ`
  rw [← (List.filter_append_perm (fun x => decide (τ + 1 ≤ x))
      (xs.filter fun x => decide (τ ≤ x))).length_eq, List.length_append, List.filter_filter,
    List.filter_filter, List.count_eq_length_filter]
  congr 2 <;> apply List.filter_congr <;> intro x _ <;> rw [Bool.eq_iff_iff] <;>
    simp only [Bool.and_eq_true, Bool.not_eq_true', decide_eq_true_eq, decide_eq_false_iff_not,
      beq_iff_eq]
  · exact and_iff_left_of_imp Nat.le_of_succ_le
  · exact ⟨fun h => Nat.le_antisymm (Nat.not_lt.mp h.1) h.2,
      fun e => e ▸ ⟨Nat.not_succ_le_self x, Nat.le_refl x⟩⟩

theorem absLeft_succ_le (xs : List Nat) (τ : Nat) : absLeft xs (τ + 1) ≤ absLeft xs τ := by
  rw [absLeft_succ xs τ]; exact Nat.le_add_right _ _

theorem absLeft_succ_lt (xs : List Nat) (τ : Nat) (h : τ ∈ xs) :
    absLeft xs (τ + 1) + 1 ≤ absLeft xs τ := by
  rw [absLeft_succ xs τ]; exact Nat.add_le_add_left (List.count_pos_iff.mpr h) _

/-- `⌈r / δ⌉` as a natural number (0 when `r ≤ 0`) -/
def cnt (δ r : Rat) : Nat := Auto.ceilNat (r / δ)

theorem div_le_div {δ a b : Rat} (hδ : 0 < δ) (h : a ≤ b) : a / δ ≤ b / δ :=
  Rat.not_lt.mp fun hlt => Rat.not_lt.mpr h
    (by rwa [Rat.div_lt_iff hδ, Rat.div_mul_cancel (Rat.ne_of_gt hδ)] at hlt)

theorem sub_le_sub_left {x c d : Rat} (h : d ≤ c) : x - c ≤ x - d := by
  rw [Rat.sub_eq_add_neg, Rat.sub_eq_add_neg]
  exact Rat.add_le_add_left.mpr (Rat.neg_le_neg h)

theorem sub_le_self {x c : Rat} (h : 0 ≤ c) : x - c ≤ x := by
  have := sub_le_sub_left (x := x) h
  rwa [sub_zero] at this

theorem cnt_mono {δ a b : Rat} (hδ : 0 < δ) (h : a ≤ b) : cnt δ a ≤ cnt δ b :=
  Int.toNat_le_toNat (Rat.ceil_le_iff.mpr (Rat.le_trans (div_le_div hδ h) Rat.le_ceil))

theorem cnt_eq_zero {δ a : Rat} (hδ : 0 < δ) (h : a ≤ 0) : cnt δ a = 0 := by
  have h0 := div_le_div hδ h
  rw [Rat.div_def 0, Rat.zero_mul] at h0
  exact Int.toNat_eq_zero.mpr (Rat.ceil_le_iff.mpr h0)

theorem cnt_drop {δ a b : Rat} (hδ : 0 < δ) (hb : 0 < b) (h : a ≤ b - δ) : cnt δ a + 1 ≤ cnt δ b := by
  have e : (b - δ) / δ = b / δ - 1 := by
    rw [Rat.div_def, Rat.sub_eq_add_neg, Rat.add_mul, Rat.neg_mul,
      Rat.mul_inv_cancel δ (Rat.ne_of_gt hδ), ← Rat.sub_eq_add_neg, ← Rat.div_def]
  have h1 : (a / δ).ceil ≤ (b / δ).ceil - 1 := by
    rw [← Rat.ceil_sub_one, ← e]
    exact Rat.ceil_le_iff.mpr (Rat.le_trans (div_le_div hδ h) Rat.le_ceil)
  exact (Int.toNat_lt_toNat (Rat.lt_ceil_iff.mpr (div_pos hb hδ))).mpr
    (Int.lt_of_le_sub_one h1)

def lowest : List Rat → Rat
  | [] => 1
  | [x] => x
  | x :: y :: ys => if x ≤ lowest (y :: ys) then x else lowest (y :: ys)

theorem lowest_le {xs : List Rat} {x : Rat} (h : x ∈ xs) : lowest xs ≤ x := by
  induction xs with
  | nil => cases h
  | cons a as ih =>
    cases as with
    | nil => simp at h; subst h; exact Rat.le_refl
    | cons b bs =>
      simp only [lowest]
      rcases List.mem_cons.mp h with h | h
      · subst h; split
        · exact Rat.le_refl
        · rename_i hn; exact Rat.le_of_lt (Rat.not_le.mp hn)
      · have := ih h
        split
        · rename_i hle; exact Rat.le_trans hle this
        · exact this

theorem lowest_pos {xs : List Rat} (h : ∀ x ∈ xs, 0 < x) : 0 < lowest xs := by
  induction xs with
  | nil => simp only [lowest]; decide
  | cons a as ih =>
    cases as with
    | nil => exact h a (by simp)
    | cons b bs =>
      simp only [lowest]
      split
      · exact h a (by simp)
      · exact ih (fun x hx => h x (List.mem_cons_of_mem _ hx))

def skillOf (m : Model) (t w : Nat) : Rat := skillVal (m.worker w).skills (m.task t).name

def eligWorkers (m : Model) (t : Nat) : List Nat := (List.range m.nW).filter (workerEligB m t)

/-- guaranteed progress per productive step: the rate of an automatic task, the least skill among
the eligible workers otherwise -/
def delta (m : Model) (t : Nat) : Rat :=
  if (m.task t).isAuto then (m.task t).autoRate
  else lowest ((eligWorkers m t).map (skillOf m t))

/-- the remaining work `initialize` gives task `t` -/
def rem0 (m : Model) (t : Nat) : Rat := (m.task t).work * (1 - (m.task t).prog)

/-- number of productive steps task `t` needs at most -/
def need (m : Model) (t : Nat) : Nat := cnt (delta m t) (rem0 m t)

/-- the sequential bound: project absence steps, individual absence steps of the workers relied
upon (`R`), and per task three lifecycle steps plus the productive steps it needs -/
def bound (m : Model) (p : Params) (R : Nat → Bool) : Nat :=
  p.absence.length + sumTo m.nW (fun w => if R w then (m.worker w).absence.length else 0) +
    sumTo m.nT (fun t => 3 + need m t)

theorem delta_le {m : Model} {t w : Nat} (ha : (m.task t).isAuto = false) (hw : w < m.nW)
    (he : WorkerElig m t w) : delta m t ≤ skillOf m t w := by
  unfold delta
  rw [if_neg (by simp [ha])]
  apply lowest_le
  exact List.mem_map.mpr ⟨w, List.mem_filter.mpr ⟨List.mem_range.mpr hw, (workerEligB_iff m t w).mpr he⟩, rfl⟩

/-- lifecycle stages still ahead of a task state -/
def stage (s : TS) : Nat := 3 - s.rank

def phi (m : Model) (l : Live) (t : Nat) : Nat := stage (l.tstate t) + cnt (delta m t) (l.rem t)

def mu (m : Model) (p : Params) (R : Nat → Bool) (s : St) : Nat :=
  absLeft p.absence s.time +
    sumTo m.nW (fun w => if R w then absLeft (m.worker w).absence s.time else 0) +
    sumTo m.nT (phi m s.live)

def Rng (m : Model) (l : Live) : Prop := ∀ t w, w ∈ l.allocW t → t < m.nT ∧ w < m.nW

structure Inv (m : Model) (l : Live) : Prop where
  alloc : AllocInv m l
  hold : HoldWorking l
  elig : EligInv m l
  rng : Rng m l

theorem Inv_updated {m : Model} {s : St} (h : Inv m s.live) : Inv m (updated m s).live :=
  ⟨(AllocInv_update s.time h.alloc h.hold).1, (AllocInv_update s.time h.alloc h.hold).2,
   EligInv_update m s.time s.live h.elig, InRange_update_workers s.time h.rng⟩

theorem Inv_stepBody {m : Model} (p : Params) {s : St} (h : Inv m s.live) : Inv m (stepBody m p s).live :=
  ⟨(AllocInv_stepBody p h.alloc h.hold).1, (AllocInv_stepBody p h.alloc h.hold).2.1,
   EligInv_stepBody m p s h.elig, InRange_stepBody_workers p h.rng⟩

theorem Inv_iter {m : Model} (p : Params) {s : St} (h : Inv m s.live) : Inv m (iter m p s).live :=
  Inv_stepBody p (s := updated m s) (Inv_updated h)

theorem Inv_enter {m : Model} {p : Params} (hp : p.initState = true) (s : St) :
    Inv m (enter m p s).live := by
  refine ⟨(AllocInv_enter m hp s).1, (AllocInv_enter m hp s).2, ?_, ?_⟩
  · exact EligInv_enter m hp s
  · intro t w hw
    rw [(Lifecycle.enter_live_empty m hp s).1 t] at hw
    cases hw

/-- Fragment LG ("finish gates"; named in `LiveG`, the namespace of its instances `DedG` and
`GatesOwn`, LiveGate.lean): all four dependency kinds (FS, SS, FF, SF), no facilities, automatic
tasks without component and with positive rate, an acyclic in-range graph over ALL links (rank
function `rk`), solo workers only when every worker is relied upon, and for every non-automatic
task `t` an eligible worker `w` of the organisation among those relied upon (`R w = true`) such
that every OTHER task `w` is eligible for has no FF/SF input.  (A worker of `t`'s own satisfies
this trivially; so does any eligible worker when no task has an FF/SF input — fragment L.) -/
structure _root_.PDesy.LiveG.FragLG (m : Model) (rk : Nat → Nat) (R : Nat → Bool) : Prop where
  noFac : ∀ t, t < m.nT → (m.task t).needFac = false
  autoNoComp : ∀ t, t < m.nT → (m.task t).isAuto = true → (m.task t).comp = Option.none
  graph : ∀ t, t < m.nT → ∀ e ∈ (m.task t).inputs, e.1 < m.nT ∧ rk e.1 < rk t
  autoRate : ∀ t, t < m.nT → (m.task t).isAuto = true → 0 < (m.task t).autoRate
  solo : ∀ w, w < m.nW → (m.worker w).solo = true → ∀ w', w' < m.nW → R w' = true
  served : ∀ t, t < m.nT → (m.task t).isAuto = false →
    ∃ w, w < m.nW ∧ R w = true ∧ WorkerElig m t w ∧
      ∀ t', t' < m.nT → t' ≠ t → WorkerElig m t' w → Auto.NoFinDeps m t'

open LiveG (FragLG)

/-! ### one iteration: nothing gets worse -/

theorem hasSkill_pos {skills : List (Nat × Rat)} {name : Nat} (h : hasSkill skills name = true) :
    0 < skillVal skills name := by
  unfold hasSkill at h
  unfold skillVal
  split at h
  · rename_i v hv; rw [hv]; simpa using h
  · cases h

theorem plainW_nonneg (m : Model) (l : Live) (name w : Nat) : 0 ≤ Perform.plainW m l name w := by
  unfold Perform.plainW
  split
  · rename_i h; exact Rat.le_of_lt (hasSkill_pos h.1)
  · exact Rat.le_refl

theorem sumList_map_nonneg {α : Type} {f : α → Rat} {xs : List α} (h : ∀ a ∈ xs, 0 ≤ f a) :
    0 ≤ sumList (xs.map f) := by
  induction xs with
  | nil => exact Rat.le_refl
  | cons b bs ih =>
    exact Rat.add_nonneg (h b List.mem_cons_self) (ih fun x hx => h x (List.mem_cons_of_mem _ hx))

theorem le_sumList_map {α : Type} {f : α → Rat} {xs : List α} (h : ∀ a ∈ xs, 0 ≤ f a) {a : α}
    (ha : a ∈ xs) : f a ≤ sumList (xs.map f) := by
  induction xs with
  | nil => cases ha
  | cons b bs ih =>
    have h' : ∀ x ∈ bs, 0 ≤ f x := fun x hx => h x (List.mem_cons_of_mem _ hx)
    show f a ≤ f b + sumList (bs.map f)
    rcases List.mem_cons.mp ha with rfl | e
    · exact le_add_of_nonneg Rat.le_refl (sumList_map_nonneg h')
    · rw [Rat.add_comm]; exact le_add_of_nonneg (ih h' e) (h b List.mem_cons_self)

variable {m : Model} {rk : Nat → Nat} {R : Nat → Bool} {p : Params}

theorem delta_pos (hF : FragLG m rk R) {t : Nat} (ht : t < m.nT) : 0 < delta m t := by
  unfold delta
  split
  · rename_i ha; exact hF.autoRate t ht ha
  · apply lowest_pos
    intro x hx
    obtain ⟨w, hw, rfl⟩ := List.mem_map.mp hx
    have := (List.mem_filter.mp hw).2
    exact hasSkill_pos ((workerEligB_iff m t w).mp this).1

theorem plainContrib_workers (l : Live) {t : Nat} (ha : (m.task t).isAuto = false)
    (hnf : (m.task t).needFac = false) : Perform.plainContrib m l t =
      sumList ((l.allocW t).map (Perform.plainW m l (m.task t).name)) := by
  unfold Perform.plainContrib; rw [ha, hnf]; rfl

theorem plainContrib_nonneg (hF : FragLG m rk R) (l : Live) {t : Nat}
    (ht : t < m.nT) : 0 ≤ Perform.plainContrib m l t := by
  cases ha : (m.task t).isAuto
  · rw [plainContrib_workers l ha (hF.noFac t ht)]
    exact sumList_map_nonneg fun w _ => plainW_nonneg m l _ w
  · unfold Perform.plainContrib; rw [ha]
    exact Rat.le_of_lt (hF.autoRate t ht ha)

/-- C02 in documented terms: what a step takes off the remaining work, read on the state it records -/
theorem stepBody_rem_plain {s : St} (hA : AllocInv m (stepBody m p s).live) (t : Nat) :
    (stepBody m p s).live.rem t = s.live.rem t -
      (if t < m.nT ∧ (stepBody m p s).live.tstate t = .working ∧
          (workingAt p s.time = true ∨ (p.autoFlag = true ∧ (m.task t).isAuto = true))
       then Perform.plainContrib m (stepBody m p s).live t else 0) := by
  rw [Perform.stepBody_rem, ite_sub_ite, Perform.stepBody_tstate_preCost]
  by_cases h : t < m.nT ∧ (Perform.preCost m p s).tstate t = .working ∧
      (workingAt p s.time = true ∨ (p.autoFlag = true ∧ (m.task t).isAuto = true))
  · rw [if_pos h, if_pos h, ← Perform.stepBody_contrib p s t, Perform.contrib_eq_plainContrib hA
      ((congrFun (Perform.stepBody_tstate_preCost p s) t).trans h.2.1)]
  · rw [if_neg h, if_neg h]

theorem rem_step_le (hF : FragLG m rk R) {s : St} (hA : AllocInv m (stepBody m p s).live) {t : Nat}
    (ht : t < m.nT) : (stepBody m p s).live.rem t ≤ s.live.rem t := by
  rw [stepBody_rem_plain hA]
  refine sub_le_self ?_
  split
  · exact plainContrib_nonneg hF _ ht
  · exact Rat.le_refl

theorem phi_update_le {t : Nat} (hδ : 0 < delta m t) (time : Nat) (l : Live) :
    phi m (update m time l) t ≤ phi m l t := by
  unfold phi
  rcases Perform.update_cases m time l t with ⟨h1, h2⟩ | ⟨h1, h2, h3, _⟩ | ⟨h1, _, h2, h3⟩
  · rw [h1, h2]; exact Nat.le_refl _
  · rw [h1, h2, h3]; exact Nat.add_le_add_right (by decide) _
  · rw [h1, h2, h3, cnt_eq_zero hδ Rat.le_refl]
    exact Nat.add_le_add (by decide) (Nat.zero_le _)

/-- also for a task that waits at a closed finish gate: its remaining work goes further below 0,
the count `⌈rem/δ⌉` stays 0 (`cnt_eq_zero`) -/
theorem phi_iter_le (hF : FragLG m rk R) {s : St} (hI : Inv m s.live) {t : Nat} (ht : t < m.nT) :
    phi m (iter m p s).live t ≤ phi m s.live t := by
  have hδ := delta_pos hF ht
  refine Nat.le_trans ?_ (phi_update_le hδ s.time s.live)
  rw [← updated_live]
  exact Nat.add_le_add (Nat.sub_le_sub_left (Lifecycle.stepBody_mono m p (updated m s) t) 3)
    (cnt_mono hδ (rem_step_le hF (Inv_iter p hI).alloc ht))

/-! ### one iteration: a task that is worked on, with an open finish gate, gets strictly better -/

theorem phi_drop (hF : FragLG m rk R) (s : St) {t : Nat} (ht : t < m.nT)
    (hg : finishGate m (updated m s).live.tstate t = true)
    (hu : (updated m s).live.tstate t = .ready ∨ (updated m s).live.tstate t = .working)
    (hw : (iter m p s).live.tstate t = .working)
    (hr : (iter m p s).live.rem t ≤ (updated m s).live.rem t - delta m t) :
    phi m (iter m p s).live t + 1 ≤ phi m s.live t := by
  have hδ := delta_pos hF ht
  refine Nat.lt_of_lt_of_le ?_ (phi_update_le hδ s.time s.live)
  show stage _ + cnt _ _ < stage ((updated m s).live.tstate t) + cnt _ ((updated m s).live.rem t)
  rw [hw]
  rcases hu with hu | hu <;> rw [hu]
  · -- started in this iteration: a stage is gained
    exact Nat.add_lt_add_of_lt_of_le (by decide)
      (cnt_mono hδ (Rat.le_trans hr (sub_le_self (Rat.le_of_lt hδ))))
  · -- WORKING with an open finish gate after `__update`: work is left, and `δ` of it is done
    have hpos : 0 < (updated m s).live.rem t :=
      Rat.not_le.mp fun hle => NoWait.update_finish m s.time s.live ht ⟨hu, hle, hg⟩
    exact Nat.add_lt_add_of_le_of_lt (Nat.le_refl _) (cnt_drop hδ hpos hr)

/-! ### a working step: an automatic task with open gates progresses by its rate, a task that holds a
present worker by at least that worker's skill -/

theorem auto_progress (hF : FragLG m rk R) (s : St) (hwork : p.absence.contains s.time = false)
    {t : Nat} (ht : t < m.nT) (ha : (m.task t).isAuto = true)
    (hg : finishGate m (updated m s).live.tstate t = true)
    (hu : (updated m s).live.tstate t = .ready ∨ (updated m s).live.tstate t = .working) :
    phi m (iter m p s).live t + 1 ≤ phi m s.live t := by
  have h := Auto.stepBody_auto p (updated m s) ht ha (hF.autoNoComp t ht ha) hu
  have hact : activeAt p (updated m s).time = true := Auto.activeAt_of_working hwork
  rw [if_pos hact, if_pos hact] at h
  apply phi_drop hF s ht hg hu
  · rw [iter_eq]; exact h.1
  · rw [iter_eq, h.2]
    have : delta m t = (m.task t).autoRate := by simp [delta, ha]
    rw [this]; exact Rat.le_refl

theorem iter_wstate {s : St} (hI : Inv m s.live) (hwork : p.absence.contains s.time = false)
    {w : Nat} (hw : w < m.nW) (hpres : (m.worker w).absence.contains s.time = false) :
    (iter m p s).live.wstate w = resState false ((iter m p s).live.wasg w) := by
  have h := (NoWait.stepBody_res_work m p (updated m s) hwork (Inv_updated hI).alloc
    (Inv_updated hI).hold).1 w hw
  rwa [show (updated m s).time = s.time from rfl, hpres] at h

theorem delta_le_plainContrib (hF : FragLG m rk R) {l : Live} {t w : Nat} (ht : t < m.nT)
    (ha : (m.task t).isAuto = false) (hw : w < m.nW) (hmem : w ∈ l.allocW t)
    (hel : WorkerElig m t w) (hws : l.wstate w ≠ .absence) :
    delta m t ≤ Perform.plainContrib m l t := by
  rw [plainContrib_workers l ha (hF.noFac t ht)]
  refine Rat.le_trans ?_ (le_sumList_map (fun w' _ => plainW_nonneg m l _ w') hmem)
  unfold Perform.plainW
  rw [if_pos ⟨hel.1, hws⟩]
  exact delta_le ha hw hel

theorem worker_progress (hF : FragLG m rk R) {s : St} (hI : Inv m s.live)
    (hwork : p.absence.contains s.time = false) {w t : Nat}
    (hmem : w ∈ (iter m p s).live.allocW t)
    (hg : finishGate m (updated m s).live.tstate t = true)
    (hpres : (m.worker w).absence.contains s.time = false) :
    (iter m p s).live.tstate t = .working ∧
    (iter m p s).live.rem t ≤ (updated m s).live.rem t - delta m t ∧
    phi m (iter m p s).live t + 1 ≤ phi m s.live t := by
  have hI' := Inv_iter p hI
  obtain ⟨ht, hw⟩ := hI'.rng t w hmem
  have hne := List.ne_nil_of_mem hmem
  -- C03: who holds a worker is WORKING; C04: holds eligible workers only, and none if automatic
  have hwk : (iter m p s).live.tstate t = .working := hI'.hold t (Or.inl hne)
  have hna : (m.task t).isAuto = false := by
    cases h : (m.task t).isAuto
    · rfl
    · exact absurd ((hI'.elig t ht).auto h).1 hne
  have hws : (iter m p s).live.wstate w ≠ .absence := by
    rw [iter_wstate hI hwork hw hpres]
    exact fun h => Bool.false_ne_true ((resState_iff _ _).2.1.mp h)
  have hr : (iter m p s).live.rem t ≤ (updated m s).live.rem t - delta m t := by
    rw [iter_eq, stepBody_rem_plain (s := updated m s) hI'.alloc, if_pos ⟨ht, hwk,
      Or.inl (workingAt_true_iff.2 hwork)⟩]
    exact sub_le_sub_left
      (delta_le_plainContrib hF ht hna hw hmem ((hI'.elig t ht).worker w hmem) hws)
  exact ⟨hwk, hr, phi_drop hF s ht hg
    (((Lifecycle.stepBody_start m p (updated m s)).open_iff t).mp (Or.inr hwk)) hwk hr⟩

/-! ### a rank-minimal unfinished task has both gates open after `__update` -/

theorem exists_rank_min {P : Nat → Prop} (rk : Nat → Nat) {t : Nat} (ht : P t) :
    ∃ t0, P t0 ∧ ∀ t', rk t' < rk t0 → ¬ P t' := by
  induction hk : rk t using Nat.strongRecOn generalizing t with
  | _ k ih =>
    by_cases hall : ∀ t', rk t' < rk t → ¬ P t'
    · exact ⟨t, ht, hall⟩
    · simp only [Classical.not_forall, Classical.not_not] at hall
      obtain ⟨t', h1, h2⟩ := hall
      exact ih (rk t') (hk ▸ h1) h2 rfl

theorem exists_open (hF : FragLG m rk R) (s : St) (h : allFinished m (updated m s).live = false) :
    ∃ t, t < m.nT ∧
      ((updated m s).live.tstate t = .ready ∨ (updated m s).live.tstate t = .working) ∧
      finishGate m (updated m s).live.tstate t = true := by
  obtain ⟨t1, h1⟩ := not_allFinished h
  obtain ⟨t, ⟨ht, hu⟩, hmin⟩ := exists_rank_min
    (P := fun t => t < m.nT ∧ (updated m s).live.tstate t ≠ .finished) rk h1
  -- every input of `t` is FINISHED, which opens both gates
  have hin : ∀ e ∈ (m.task t).inputs, (updated m s).live.tstate e.1 = .finished ∧
      ((updated m s).live.tstate e.1).started = true := fun e he => by
    have hf : (updated m s).live.tstate e.1 = .finished := Classical.not_not.mp fun hne =>
      hmin e.1 (hF.graph t ht e he).2 ⟨(hF.graph t ht e he).1, hne⟩
    exact ⟨hf, by rw [hf]; rfl⟩
  have hne : (updated m s).live.tstate t ≠ .none := fun h =>
    NoWait.update_ready m s.time s.live ht ⟨h, (Lifecycle.readyGate_iff m _ t).mpr fun e he =>
      ⟨fun _ => (hin e he).1, fun _ => (hin e he).2⟩⟩
  refine ⟨t, ht, ?_, (Lifecycle.finishGate_iff m _ t).mpr fun e he =>
    ⟨fun _ => (hin e he).1, fun _ => (hin e he).2⟩⟩
  revert hne hu
  cases (updated m s).live.tstate t <;> simp

/-! ### an iteration that does not end the loop decreases the measure -/

theorem canAdd_refused (hF : FragLG m rk R) {l : Live} (hI : Inv m l) {t w : Nat} (ht : t < m.nT)
    (hw : w < m.nW) (hs : l.tstate t = .ready ∨ l.tstate t = .working) (hel : WorkerElig m t w)
    (hc : canAdd m l t (some w) Option.none = false) :
    l.allocW t ≠ [] ∧ ∃ ws, ws < m.nW ∧ (m.worker ws).solo = true := by
  rw [canAdd_false_iff] at hc
  apply Classical.byContradiction
  intro hno
  -- with no solo worker in the way, every clause of `can_add_resources` holds for an eligible
  -- worker of a facility-free task
  refine hc ⟨?_, fits_W_iff.mpr ⟨hel.2.2, hel.1⟩⟩
  refine { state := hs
           soloW := fun w' hw' => ?_
           soloF := fun f' hf' => ?_
           newW := fun w0 e hsolo => ?_
           newF := fun _ e => nomatch e
           fasg := fun _ e => nomatch e }
  · cases hsolo : (m.worker w').solo
    · rfl
    · exact absurd ⟨List.ne_nil_of_mem hw', w', (hI.rng t w' hw').2, hsolo⟩ hno
  · have := hI.alloc.fac_only t (List.ne_nil_of_mem hf')
    rw [hF.noFac t ht] at this; cases this
  · cases e
    exact Classical.byContradiction fun hne => hno ⟨hne, w, hw, hsolo⟩

theorem present_worker (hF : FragLG m rk R) {s : St} (hI : Inv m s.live)
    (hwork : p.absence.contains s.time = false) {w t : Nat} (hw : w < m.nW) (ht : t < m.nT)
    (ha : (m.task t).isAuto = false) (hel : WorkerElig m t w)
    (hu : (updated m s).live.tstate t = .ready ∨ (updated m s).live.tstate t = .working)
    (hpres : (m.worker w).absence.contains s.time = false) :
    (∃ t', w ∈ (iter m p s).live.allocW t') ∨
    ((iter m p s).live.allocW t ≠ [] ∧ ∃ ws, ws < m.nW ∧ (m.worker ws).solo = true) := by
  have hI' := Inv_iter p hI
  have hIu := Inv_updated hI
  have hws := iter_wstate hI hwork hw hpres
  have hs' : (iter m p s).live.tstate t = .ready ∨ (iter m p s).live.tstate t = .working :=
    ((Lifecycle.stepBody_start m p (updated m s)).open_iff t).mpr hu
  cases hasg : (iter m p s).live.wasg w with
  | nil =>
    -- `w` is FREE at the end of the step: by C06 (c) `t` has refused it
    have hfree : (iter m p s).live.wstate w = .free := by rw [hws, hasg]; rfl
    have h1 := NoWait.stepBody_idle m p (updated m s) hwork hIu.alloc hIu.hold hw hfree ht
      hs' ha (.none (hF.noFac t ht)) hel.1 hel.2.1
    exact Or.inr (canAdd_refused hF hI' ht hw hs' hel h1)
  | cons t' rest => exact Or.inl ⟨t', (hI'.alloc.w_two t' w).mpr (by rw [hasg]; simp)⟩

theorem add3_lt {a b c a' b' c' : Nat} (ha : a' ≤ a) (hb : b' ≤ b) (hc : c' ≤ c)
    (h : a' < a ∨ b' < b ∨ c' < c) : a' + b' + c' < a + b + c := by
  rcases h with h | h | h
  · exact Nat.add_lt_add_of_lt_of_le (Nat.add_lt_add_of_lt_of_le h hb) hc
  · exact Nat.add_lt_add_of_lt_of_le (Nat.add_lt_add_of_le_of_lt ha h) hc
  · exact Nat.add_lt_add_of_le_of_lt (Nat.add_le_add ha hb) h

theorem mu_lt_of (hF : FragLG m rk R) {s : St} (hI : Inv m s.live)
    (h : s.time ∈ p.absence ∨
      (∃ w, w < m.nW ∧ R w = true ∧ s.time ∈ (m.worker w).absence) ∨
      ∃ t, t < m.nT ∧ phi m (iter m p s).live t + 1 ≤ phi m s.live t) :
    mu m p R (iter m p s) + 1 ≤ mu m p R s := by
  unfold mu
  rw [iter_time]
  have hW : ∀ w, w < m.nW → (if R w then absLeft (m.worker w).absence (s.time + 1) else 0) ≤
      (if R w then absLeft (m.worker w).absence s.time else 0) := by
    intro w _; split
    · exact absLeft_succ_le _ _
    · exact Nat.le_refl _
  have hP : ∀ t, t < m.nT → phi m (iter m p s).live t ≤ phi m s.live t :=
    fun t ht => phi_iter_le hF hI ht
  refine add3_lt (absLeft_succ_le _ _) (sumTo_le hW) (sumTo_le hP) ?_
  rcases h with h | ⟨w, hw, hR, h⟩ | ⟨t, ht, h⟩
  · exact Or.inl (absLeft_succ_lt _ _ h)
  · exact Or.inr (Or.inl (sumTo_lt hW w hw (by rw [if_pos hR, if_pos hR]; exact absLeft_succ_lt _ _ h)))
  · exact Or.inr (Or.inr (sumTo_lt hP t ht h))

theorem mu_iter_lt (hF : FragLG m rk R) {s : St} (hI : Inv m s.live)
    (hnf : allFinished m (updated m s).live = false) :
    mu m p R (iter m p s) + 1 ≤ mu m p R s := by
  apply mu_lt_of hF hI
  cases hwork : p.absence.contains s.time
  case true => exact Or.inl (by simpa using hwork)
  -- a working step; a relied-upon worker that is absent now uses up one of its absence steps
  by_cases habs : ∃ w, w < m.nW ∧ R w = true ∧ s.time ∈ (m.worker w).absence
  · exact Or.inr (Or.inl habs)
  have hpres : ∀ w, w < m.nW → R w = true → (m.worker w).absence.contains s.time = false :=
    fun w hw hR => Bool.eq_false_iff.mpr fun h => habs ⟨w, hw, hR, by simpa using h⟩
  refine Or.inr (Or.inr ?_)
  obtain ⟨t, ht, hu, hg⟩ := exists_open hF s hnf
  have hI' := Inv_iter p hI
  cases ha : (m.task t).isAuto
  case true => exact ⟨t, ht, auto_progress hF s hwork ht ha hg hu⟩
  obtain ⟨w, hw, hR, hel, hother⟩ := hF.served t ht ha
  -- at the end of the step a task with an open finish gate holds a relied-upon worker
  obtain ⟨w2, t2, hm2, hR2, hg2⟩ : ∃ w2 t2, w2 ∈ (iter m p s).live.allocW t2 ∧ R w2 = true ∧
      finishGate m (updated m s).live.tstate t2 = true := by
    rcases present_worker hF hI hwork hw ht ha hel hu (hpres w hw hR) with
      ⟨t', hmem⟩ | ⟨hne, ws, hws1, hws2⟩
    · -- the holder is `t` itself or another task, which has no finish gate
      by_cases e : t' = t
      · exact ⟨w, t', hmem, hR, e ▸ hg⟩
      · have ht' := (hI'.rng t' w hmem).1
        exact ⟨w, t', hmem, hR,
          Lifecycle.finishGate_of_inputs m _ t' (hother t' ht' e ((hI'.elig t' ht').worker w hmem))⟩
    · -- shut out by a solo worker: then every worker is relied upon, and `t` holds somebody
      obtain ⟨w2, hm2⟩ := List.exists_mem_of_ne_nil _ hne
      exact ⟨w2, t, hm2, hF.solo ws hws1 hws2 w2 (hI'.rng t w2 hm2).2, hg⟩
  obtain ⟨ht2, hw2⟩ := hI'.rng t2 w2 hm2
  exact ⟨t2, ht2, (worker_progress hF hI hwork hm2 hg2 (hpres w2 hw2 hR2)).2.2⟩

/-! ### `mu ≤ bound` after `initialize`, hence SUCCESS within `bound` iterations -/

theorem phi_enter_le (hs : p.initState = true) (s : St) (t : Nat) :
    phi m (enter m p s).live t ≤ 3 + need m t := by
  unfold phi need
  rw [Perform.enter_rem hs s t]
  exact Nat.add_le_add_right (Nat.sub_le 3 _) _

theorem mu_enter_le (hs : p.initState = true) (s : St) : mu m p R (enter m p s) ≤ bound m p R := by
  refine Nat.add_le_add (Nat.add_le_add (absLeft_le_length _ _) (sumTo_le fun w _ => ?_))
    (sumTo_le fun t _ => phi_enter_le hs s t)
  split
  · exact absLeft_le_length _ _
  · exact Nat.le_refl _

/-- `time + n ≤ max_time` keeps the FAILURE exit away -/
theorem loop_success_of {I : St → Prop} {μ : St → Nat} (hI : ∀ s, I s → I (iter m p s))
    (hμ : ∀ s, I s → allFinished m (updated m s).live = false → μ (iter m p s) + 1 ≤ μ s) :
    ∀ fuel n s, I s → μ s ≤ n → s.time + n ≤ p.maxTime → n + 1 ≤ fuel →
      (loop m p fuel s).status = .success ∧ (loop m p fuel s).time ≤ s.time + n ∧
      allFinished m (loop m p fuel s).live = true := by
  intro fuel
  induction fuel with
  | zero => intro n s _ _ _ h; omega
  | succ f ih =>
    intro n s hs hn htime hfuel
    rw [loop_succ]
    by_cases hall : allFinished m (updated m s).live = true
    · rw [if_pos hall]; exact ⟨rfl, Nat.le_add_right s.time n, hall⟩
    · -- the measure has dropped, so `n = k + 1` and the clock is still before `max_time`
      have hdec := Nat.le_trans (hμ s hs (Bool.eq_false_iff.mpr hall)) hn
      obtain ⟨k, rfl⟩ := Nat.exists_eq_add_one.mpr (Nat.lt_of_lt_of_le (Nat.succ_pos _) hdec)
      have hlt : s.time < p.maxTime :=
        Nat.lt_of_lt_of_le (Nat.lt_add_of_pos_right (Nat.succ_pos k)) htime
      rw [if_neg hall, if_neg (Nat.not_le.mpr hlt)]
      obtain ⟨h1, h2, h3⟩ := ih k (iter m p s) (hI s hs) (Nat.le_of_succ_le_succ hdec)
        (by rw [iter_time, Nat.add_right_comm]; exact htime) (Nat.le_of_succ_le_succ hfuel)
      exact ⟨h1, Nat.le_trans h2 (by rw [iter_time, Nat.add_right_comm]; exact Nat.le_refl _),
        h3⟩

theorem loop_success (hF : FragLG m rk R) (n fuel : Nat) (s : St) :
    Inv m s.live → mu m p R s ≤ n → s.time + n ≤ p.maxTime → n + 1 ≤ fuel →
      (loop m p fuel s).status = .success ∧ (loop m p fuel s).time ≤ s.time + n ∧
      allFinished m (loop m p fuel s).live = true :=
  loop_success_of (I := fun s => Inv m s.live) (fun _ => Inv_iter p) (fun _ => mu_iter_lt hF)
    fuel n s

theorem simulate_success (hF : FragLG m rk R) (s : St) (hs : p.initState = true)
    (hb : (enter m p s).time + bound m p R ≤ p.maxTime) :
    (simulate m p s).status = .success ∧
    (simulate m p s).time ≤ (enter m p s).time + bound m p R ∧
    allFinished m (simulate m p s).live = true := by
  rw [simulate_eq]
  apply loop_success hF (bound m p R) _ _ (Inv_enter hs s) (mu_enter_le hs s) hb
  unfold fuelOf; omega

/-- `simulate_success` for a run with `log_info = True`, which starts its clock at 0 -/
theorem simulate_success_zero (hF : FragLG m rk R) (s : St) (hs : p.initState = true)
    (hl : p.initLog = true) (hb : bound m p R ≤ p.maxTime) :
    (simulate m p s).status = .success ∧ (simulate m p s).time ≤ bound m p R ∧
    allFinished m (simulate m p s).live = true := by
  have h := simulate_success hF s hs (by rw [Logs.enter_time s hl, Nat.zero_add]; exact hb)
  rwa [Logs.enter_time s hl, Nat.zero_add] at h

/-! Nothing in the library rests on what follows; the names are end results of the development and
stay. -/

theorem sumTo_zero {n : Nat} {f : Nat → Nat} (h : sumTo n f = 0) : ∀ i, i < n → f i = 0 := by
  induction n with
  | zero => exact fun i hi => absurd hi (Nat.not_lt_zero i)
  | succ n ih =>
    obtain ⟨h1, h2⟩ := Nat.add_eq_zero_iff.mp h
    intro i hi
    rcases Nat.lt_succ_iff_lt_or_eq.mp hi with hi | rfl
    · exact ih h1 i hi
    · exact h2

end Live_
end PDesy
