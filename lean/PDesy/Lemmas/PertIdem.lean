/-
  PDesy.Lemmas.PertIdem — `update_PERT_data` recomputed on its own output gives the same (C15).  By
  `Idem.pert_idem_of_fwd` it is enough that a second forward pass, started on the `est` and `eft` the
  first one computed, computes them again.  It does under either of two sets of hypotheses.

  The link graph is acyclic; EVERY state, whatever the link kinds and the signs of the remaining
  work amounts (`pert_idem_ranked`).  Of the old PERT data of `l`, `pert m time l` reads below `m.nT`
  no `est`, `lst`, `lft` (reset; `pertReset`), `cpl` only when there is no tail task, and of `eft`
  (reset at the heads) the old `eft i` of a non-head task `i`: an FF relaxation `i → j` reads it while
  no relaxation into `i` has been accepted.  The acceptance tests `est ≥ pre_est` read `est` only
  and the list of relaxations depends on the graph only, so the same relaxations are accepted
  whatever the old `eft`.  A stale `eft i` that has been read is overwritten: if `i` is written
  later, `i → j` is relaxed again (acyclic: the waves die out before the fuel does,
  `Wave.evs_recurs`) and accepted again unless `j` was written in between (`Wr_of_mem`: `est` only
  grows).  So two passes whose old `eft` differ only at tasks that are written end with the same
  table (`fwdFold_congr`).

  Any link graph, cycles included, but no negative remaining work at a task with a finish-to-start
  successor (`Idem.pert_idem`, the last part of the file).  Then no relaxation proposes an `est`
  below `time`, so the first relaxation into a task is accepted, in both passes; an `eft` that
  differs between them belongs to a task not written so far (`FR`).
-/
import PDesy.Lemmas.PertBase

namespace PDesy
namespace PertIdem

open Idem Wave Order

/-- a relaxation event: source task, (target task, link kind) -/
abbrev Ev := Nat × (Nat × Dep)

def evStep (l : Live) (p : Pert) (ev : Ev) : Pert := fwdRelax l p ev.1 ev.2

/-- the relaxations of one wave, in execution order -/
def waveEvs (m : Model) (wave : List Nat) : List Ev :=
  wave.flatMap fun i => (m.task i).outputs.map fun e => (i, e)

/-- all relaxations of the forward pass, in execution order: they depend on the graph only -/
def fwdEvs (m : Model) : Nat → List Nat → List Ev
  | 0, _ => []
  | fuel + 1, wave =>
    if wave.isEmpty then [] else waveEvs m wave ++ fwdEvs m fuel (nextOf m wave)

theorem fwdEvs_eq (m : Model) : ∀ (fuel : Nat) (wave : List Nat),
    fwdEvs m fuel wave = evs (canonSet m.nT) (outs m) (·.1) fuel wave := by
  intro fuel
  induction fuel with
  | zero => intro wave; rfl
  | succ n ih => intro wave; simp only [fwdEvs, evs, ih]; rfl

theorem evStep_rem {l l' : Live} (h : l'.rem = l.rem) : evStep l' = evStep l := by
  funext p ev; unfold evStep; rw [fwdRelax_rem h]

theorem pertFwd_fold (m : Model) (l : Live) (time : Rat) :
    pertFwd m time l = (fwdEvs m (m.nT + 1) (heads m)).foldl (evStep l) (fwdInit m time l) := by
  rw [pertFwd_eq, wLoop_fold, ← fwdEvs_eq]; rfl

/-- the relaxation `ev` is accepted at table `p` (`est >= pre_est`) -/
def Acc (l : Live) (p : Pert) (ev : Ev) : Prop := (fwdCand l p ev.1 ev.2).1 ≥ p.est ev.2.1

instance (l : Live) (p : Pert) (ev : Ev) : Decidable (Acc l p ev) := by unfold Acc; infer_instance

/-- task `j` is written (some relaxation into it is accepted) during the fold over `evs` from `p` -/
def Wr (l : Live) : List Ev → Pert → Nat → Prop
  | [], _, _ => False
  | ev :: rest, p, j => (Acc l p ev ∧ ev.2.1 = j) ∨ Wr l rest (evStep l p ev) j

instance Wr.dec (l : Live) : ∀ (evs : List Ev) (p : Pert) (j : Nat), Decidable (Wr l evs p j)
  | [], _, _ => isFalse (fun h => h)
  | ev :: rest, p, j =>
    @instDecidableOr _ _ inferInstance (Wr.dec l rest (evStep l p ev) j)

theorem eft_of_not_Wr (l : Live) (j : Nat) : ∀ (evs : List Ev) (p : Pert), ¬ Wr l evs p j →
    (evs.foldl (evStep l) p).eft j = p.eft j := by
  intro evs
  induction evs with
  | nil => intro p _; rfl
  | cons ev rest ih =>
    intro p h
    have h1 : ¬ (Acc l p ev ∧ ev.2.1 = j) := fun hh => h (Or.inl hh)
    have h2 : ¬ Wr l rest (evStep l p ev) j := fun hh => h (Or.inr hh)
    rw [List.foldl_cons, ih _ h2]
    rcases fwdRelax_cases l p ev.1 ev.2 j with ⟨_, h⟩ | ⟨hj, ha, _, _⟩
    · exact h
    · exact absurd ⟨ha, hj.symm⟩ h1

theorem Wr_split (l : Live) (j : Nat) : ∀ (evs : List Ev) (p : Pert), Wr l evs p j →
    ∃ ys1 ev2 ys2, evs = ys1 ++ ev2 :: ys2 ∧ ev2.2.1 = j := by
  intro evs
  induction evs with
  | nil => intro p h; exact h.elim
  | cons ev rest ih =>
    intro p h
    rcases h with ⟨_, h⟩ | h
    · exact ⟨[], ev, rest, rfl, h⟩
    · obtain ⟨ys1, ev2, ys2, h1, h2⟩ := ih _ h
      exact ⟨ev :: ys1, ev2, ys2, by rw [h1]; rfl, h2⟩

/-- **monotonicity**: while the `est` of the target of `ev` is at most what `ev` proposes, `ev`
will be accepted when it comes up — unless the target is written before; either way the target
is written during the fold, if `ev` occurs in the list -/
theorem Wr_of_mem (l : Live) (ev : Ev) : ∀ (rest : List Ev) (p : Pert),
    ev ∈ rest → p.est ev.2.1 ≤ (fwdCand l p ev.1 ev.2).1 → Wr l rest p ev.2.1 := by
  intro rest
  induction rest with
  | nil => intro p h; simp at h
  | cons ev2 rest ih =>
    intro p hmem hle
    by_cases hacc : Acc l p ev2 ∧ ev2.2.1 = ev.2.1
    · exact Or.inl hacc
    · right
      apply ih
      · rcases List.mem_cons.mp hmem with rfl | h
        · exact absurd ⟨hle, rfl⟩ hacc
        · exact h
      · rcases fwdRelax_cases l p ev2.1 ev2.2 ev.2.1 with ⟨h, _⟩ | ⟨hx, ha, _, _⟩
        · rw [show (evStep l p ev2).est ev.2.1 = p.est ev.2.1 from h]
          exact Rat.le_trans hle (fwdCand_fst_mono l ev.1 ev.2 (le_fwdRelax_est l p ev2.1 ev2.2 ev.1))
        · exact absurd ⟨ha, hx.symm⟩ hacc

theorem fwdFold_congr (l : Live) : ∀ (evs : List Ev) (p1 p2 : Pert), Recurs (·.1) (·.2.1) evs →
    (∀ ev ∈ evs, ev.1 ≠ ev.2.1) → p2.est = p1.est →
    (∀ j, p2.eft j ≠ p1.eft j → Wr l evs p1 j) →
    (evs.foldl (evStep l) p2).est = (evs.foldl (evStep l) p1).est ∧
    (evs.foldl (evStep l) p2).eft = (evs.foldl (evStep l) p1).eft := by
  intro evs
  induction evs with
  | nil =>
    intro p1 p2 _ _ hest hd
    exact ⟨hest, funext fun j => Decidable.byContradiction (hd j)⟩
  | cons ev rest ih =>
    intro p1 p2 hss hns hest hd
    have hne : ev.1 ≠ ev.2.1 := hns ev (List.mem_cons_self ..)
    have hc1 : (fwdCand l p2 ev.1 ev.2).1 = (fwdCand l p1 ev.1 ev.2).1 :=
      fwdCand_fst_congr l ev.1 ev.2 (by rw [hest])
    have hcases := fwdRelax_cases₂ l p1 p2 ev.1 ev.2 (by rw [hc1, hest])
    rw [List.foldl_cons, List.foldl_cons]
    apply ih _ _ hss.tail (fun e he => hns e (List.mem_cons_of_mem _ he))
    · funext x
      rcases hcases x with ⟨_, ⟨h1, _⟩, h3, _⟩ | ⟨_, ⟨h1, _⟩, h3, _⟩
      · exact h3.trans ((congrFun hest x).trans h1.symm)
      · exact h3.trans (hc1.trans h1.symm)
    · intro j hj
      rcases hcases j with ⟨hrej, ⟨_, h2⟩, _, h4⟩ | ⟨hjt, ⟨h1, h2⟩, _, h4⟩
      · have hj' : p2.eft j ≠ p1.eft j := fun heq => hj (h4.trans (heq.trans h2.symm))
        rcases hd j hj' with ⟨ha, ht⟩ | h
        · exact absurd ha (hrej ht.symm)
        · exact h
      · -- the target itself: the two proposed `eft` differ, so the link is FF and the
        -- source differs, hence will be written, hence the target will be written again
        subst hjt
        have hsrc : p2.eft ev.1 ≠ p1.eft ev.1 := fun heq =>
          hj (h4.trans ((fwdCand_snd_congr l ev.1 ev.2 (by rw [hest]) fun _ => heq).trans h2.symm))
        have hw : Wr l rest (evStep l p1 ev) ev.1 :=
          (hd ev.1 hsrc).elim (fun h => absurd h.2.symm hne) id
        obtain ⟨ys1, ev2, ys2, hs, ht⟩ := Wr_split l ev.1 rest _ hw
        have hin : ev ∈ ys2 :=
          hss (ev :: ys1) ev2 ys2 (by rw [hs]; rfl) ev (List.mem_cons_self ..) ht.symm
        apply Wr_of_mem l ev rest _ (by rw [hs]; simp [hin])
        rw [show (evStep l p1 ev).est ev.2.1 = _ from h1,
          fwdCand_fst_congr l (p' := evStep l p1 ev) ev.1 ev.2 (fwdRelax_other l p1 ev.1 ev.2 hne).1]
        exact Rat.le_refl

/-- some rank below `m.nT` increases strictly along every output link, and output links stay
inside the task list: the link graph (as the forward pass sees it) is acyclic.  This is
`∃ rk, Wave.Ranked m.nT (outs m) (·.1) rk` unfolded, and is used as that. -/
def FwdRanked (m : Model) : Prop :=
  ∃ rk : Nat → Nat, ∀ t, t < m.nT →
    rk t < m.nT ∧ ∀ e ∈ (m.task t).outputs, e.1 < m.nT ∧ rk t < rk e.1

/-- consistent link lists without a cycle have such a rank: the depth (longest distance from a
task without predecessors) -/
theorem fwdRanked_of {m : Model} (hok : PertSpec.GraphOK m) (hac : PertSpec.Acyclic m) :
    FwdRanked m :=
  let ⟨rk, h⟩ := (PertSpec.dag_of hok hac).ranked
  ⟨rk, h.of_map (out := outs m)⟩

section ranked
variable (m : Model) (rk : Nat → Nat) (hrk : Ranked m.nT (outs m) (·.1) rk)
include hrk

theorem fwdEvs_recurs : Recurs (·.1) (·.2.1) (fwdEvs m (m.nT + 1) (heads m)) := by
  rw [fwdEvs_eq]; exact evs_recurs (ordOK_canon _) hrk (heads_lt m)

theorem fwdEvs_noSelf : ∀ ev ∈ fwdEvs m (m.nT + 1) (heads m), ev.1 ≠ ev.2.1 := by
  intro ev hev heq
  obtain ⟨h1, h2⟩ := of_mem_evs (ordOK_canon _) _ _ (heads_lt m) ev (fwdEvs_eq m _ _ ▸ hev)
  exact Nat.lt_irrefl _ (heq ▸ ((hrk _ h1).2 _ h2).2 : rk ev.1 < rk ev.1)

end ranked

variable (m : Model)

/-- task `j` is written by the forward pass at `l` (some relaxation into it is accepted) -/
def FwdWrites (m : Model) (l : Live) (time : Rat) (j : Nat) : Prop :=
  Wr l (fwdEvs m (m.nT + 1) (heads m)) (fwdInit m time l) j

instance (m : Model) (l : Live) (time : Rat) (j : Nat) : Decidable (FwdWrites m l time j) := by
  unfold FwdWrites; infer_instance

/-- **What the forward pass reads of the old PERT data** (acyclic graph): besides `rem`, only
`est` outside the task list and the `eft` of tasks that are neither heads nor written by the
pass.  (Which tasks are written is decided by `rem` alone.) -/
theorem pertFwd_congr (hrk : FwdRanked m) (l l' : Live) (time : Rat) (hr : l'.rem = l.rem)
    (hest : ∀ t, ¬ t < m.nT → l'.est t = l.est t)
    (heft : ∀ j, ¬ (j < m.nT ∧ (m.task j).inputs.isEmpty = true) → ¬ FwdWrites m l time j →
      l'.eft j = l.eft j) :
    (pertFwd m time l').est = (pertFwd m time l).est ∧
    (pertFwd m time l').eft = (pertFwd m time l).eft := by
  obtain ⟨rk, hrk⟩ := hrk  -- `hrk : Ranked m.nT (outs m) (·.1) rk` from here on
  -- where the `eft` of the two start tables differ, the first pass writes
  have h1 : ∀ j, (fwdInit m time l').eft j ≠ (fwdInit m time l).eft j →
      Wr l (fwdEvs m (m.nT + 1) (heads m)) (fwdInit m time l) j := by
    refine fun j => Decidable.not_imp_symm fun hnw => ?_
    by_cases hc : j < m.nT ∧ (m.task j).inputs.isEmpty = true
    · exact fwdInit_eft_head_congr hr hc.1 hc.2
    · rw [fwdInit_eft_other hc, fwdInit_eft_other hc]; exact heft j hc hnw
  rw [pertFwd_fold, pertFwd_fold, evStep_rem hr]
  exact fwdFold_congr l _ (fwdInit m time l) (fwdInit m time l') (fwdEvs_recurs m rk hrk)
    (fwdEvs_noSelf m rk hrk) (fwdInit_est_congr hest) h1

theorem pertFwd_again_ranked (hwf : WF m) (hrk : FwdRanked m) (l l' : Live) (time : Rat)
    (hr : l'.rem = l.rem)
    (hest : ∀ t, ¬ t < m.nT → l'.est t = (pertFwd m time l).est t)
    (heft : l'.eft = (pertFwd m time l).eft) :
    (pertFwd m time l').est = (pertFwd m time l).est ∧
    (pertFwd m time l').eft = (pertFwd m time l).eft := by
  apply pertFwd_congr m hrk l l' time hr
  · intro t ht
    rw [hest t ht, ((pertFwd_out m hwf time l).1 t ht).1]
  · intro j hc hnw
    have hkeep := eft_of_not_Wr l j _ _ hnw
    rw [← pertFwd_fold] at hkeep
    rw [heft, hkeep, fwdInit_eft_other hc]

theorem pert_idem_ranked (hwf : WF m) (hrk : FwdRanked m) (time : Nat) (l : Live) :
    pert m time (pert m time l) = pert m time l :=
  pert_idem_of_fwd m hwf time l fun l' hr he hf => pertFwd_again_ranked m hwf hrk l l' _ hr he hf

theorem pert_idem_acyclic (hok : PertSpec.GraphOK m) (hac : PertSpec.Acyclic m) (time : Nat)
    (l : Live) : pert m time (pert m time l) = pert m time l :=
  pert_idem_ranked m hok.wf (fwdRanked_of hok hac) time l

end PertIdem

namespace Idem
open Wave
variable (m : Model)

/-- The relation between a forward pass `p` and a second forward pass `p'` that started from
the first one's final `eft` values `E`: same `est`; every `est` is at least `time`; and every
`eft` either already agrees, or belongs to a task the first pass has not written yet (its
`est` is still `time`) and holds the final value `E`. -/
structure FR (m : Model) (time : Rat) (E : Nat → Rat) (p p' : Pert) : Prop where
  est : p'.est = p.est
  lo : ∀ t, t < m.nT → time ≤ p.est t
  eft : ∀ t, p'.eft t = p.eft t ∨ (t < m.nT ∧ p.est t = time ∧ p'.eft t = E t)

theorem FR_step (l : Live) (hnn : ∀ t, t < m.nT → FsSrc m t → 0 ≤ l.rem t) (time : Rat)
    (E : Nat → Rat) (p p' : Pert) (i : Nat) (e : Nat × Dep) (hS : FR m time E p p') (hi : i < m.nT)
    (hG : p'.eft i = p.eft i) (he : e ∈ (m.task i).outputs) :
    FR m time E (fwdRelax l p i e) (fwdRelax l p' i e) ∧
    (fwdRelax l p' i e).eft e.1 = (fwdRelax l p i e).eft e.1 ∧
    ∀ t, p'.eft t = p.eft t → (fwdRelax l p' i e).eft t = (fwdRelax l p i e).eft t := by
  have hc : fwdCand l p' i e = fwdCand l p i e :=
    Prod.ext (fwdCand_fst_congr l i e (congrFun hS.est i))
      (fwdCand_snd_congr l i e (congrFun hS.est i) fun _ => hG)
  have hge : time ≤ (fwdCand l p i e).1 :=
    Rat.le_trans (hS.lo i hi) (fwdCand_ge l p i e (fun hfs => hnn i hi ⟨e, he, hfs⟩))
  have hcases := fwdRelax_cases₂ l p p' i e (by rw [hc, hS.est])
  refine ⟨⟨funext fun t => ?_, fun t ht => Rat.le_trans (hS.lo t ht) (le_fwdRelax_est l p i e t),
    fun t => ?_⟩, ?_, fun t ht => ?_⟩
  · rcases hcases t with ⟨_, ⟨h1, _⟩, h3, _⟩ | ⟨_, ⟨h1, _⟩, h3, _⟩ <;> rw [h1, h3]
    · exact congrFun hS.est t
    · rw [hc]
  · rcases hcases t with ⟨_, ⟨h1, h2⟩, _, h4⟩ | ⟨_, ⟨_, h2⟩, _, h4⟩
    · rw [h1, h2, h4]; exact hS.eft t
    · rw [h2, h4, hc]; exact Or.inl rfl
  · rcases hcases e.1 with ⟨hrej, ⟨_, h2⟩, _, h4⟩ | ⟨_, ⟨_, h2⟩, _, h4⟩
    · rw [h2, h4]
      exact (hS.eft e.1).elim id fun h => absurd (h.2.1 ▸ hge) (hrej rfl)
    · rw [h2, h4, hc]
  · rcases hcases t with ⟨_, ⟨_, h2⟩, _, h4⟩ | ⟨_, ⟨_, h2⟩, _, h4⟩
    · rw [h2, h4]; exact ht
    · rw [h2, h4, hc]

theorem pertFwd_again (hwf : WF m) (l l' : Live) (time : Rat) (hr : l'.rem = l.rem)
    (hnn : ∀ t, t < m.nT → FsSrc m t → 0 ≤ l.rem t)
    (hest : ∀ t, ¬ t < m.nT → l'.est t = (pertFwd m time l).est t)
    (heft : l'.eft = (pertFwd m time l).eft) :
    (pertFwd m time l').est = (pertFwd m time l).est ∧
    (pertFwd m time l').eft = (pertFwd m time l).eft := by
  have hfr := (pertFwd_out m hwf time l).1
  have h0 : FR m time (pertFwd m time l).eft (fwdInit m time l) (fwdInit m time l') := by
    refine ⟨fwdInit_est_congr fun t ht => ?_, fun t ht => ?_, fun t => ?_⟩
    · rw [hest t ht, (hfr t ht).1]
    · rw [fwdInit_est_lt ht]; exact Rat.le_refl
    · by_cases hc : t < m.nT ∧ (m.task t).inputs.isEmpty = true
      · exact Or.inl (fwdInit_eft_head_congr hr hc.1 hc.2)
      · rw [fwdInit_eft_other hc, fwdInit_eft_other hc, heft]
        by_cases ht : t < m.nT
        · exact Or.inr ⟨ht, fwdInit_est_lt ht, rfl⟩
        · exact Or.inl (hfr t ht).2
  have hfin := pertFwd_pair m hr time time (FR m time (pertFwd m time l).eft)
    (fun p p' t => p'.eft t = p.eft t)
    (fun p p' i e hS hi hG he => FR_step m l hnn time _ p p' i e hS hi hG he) h0
    fun i hi => fwdInit_eft_head_congr hr (heads_lt m i hi) (List.isEmpty_iff.2 (mem_heads.1 hi).2)
  exact ⟨hfin.est, funext fun t => (hfin.eft t).elim id fun h => h.2.2⟩

theorem pert_idem (hwf : WF m) (time : Nat) (l : Live)
    (hnn : ∀ t, t < m.nT → FsSrc m t → 0 ≤ l.rem t) :
    pert m time (pert m time l) = pert m time l :=
  pert_idem_of_fwd m hwf time l fun l' hr he hf => pertFwd_again m hwf l l' _ hr hnn he hf

end Idem
end PDesy
