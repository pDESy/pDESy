/-
  PDesy.Lemmas.NoWait — "no avoidable waiting" and the second half of "allocation never inverts the
  priority order" (C06, C11).

  Clauses (a), (b), (d) of C06 are facts about `__update` and `check_state(WORKING)`.  Clause (c)
  and C11 are one argument on the allocation pass cut at the turn of a task (`Turn`, AllocLoop.lean):
  the turn settles the task with every facility `Offered` to it, a refusal stands to the end of the
  pass, and a worker that stays idle or goes to a later task was in the free list at that turn.
  It is stated once over `f : Option Nat` (`none`: the task needs no facility; `some f`: the pair
  form) and then read at the end of a working step.
-/
import PDesy.Lemmas.Alloc
import PDesy.Lemmas.Perform
import PDesy.Lemmas.Place
import PDesy.Model.SubProject

namespace PDesy

namespace Pairs

/-- component `c` carries no task but `t`: a pass moves it at the turn of `t` only -/
def OnlyTask (m : Model) (c t : Nat) : Prop :=
  ∀ t', t' < m.nT → (m.task t').comp = some c → t' = t

theorem OnlyTask.of_tasks {m : Model} {c t : Nat}
    (hlink : ∀ t', t' < m.nT → (m.task t').comp = some c → t' ∈ (m.comp c).tasks)
    (hsingle : (m.comp c).tasks = [t]) : OnlyTask m c t := by
  intro t' ht' hc'
  have := hlink t' ht' hc'
  rw [hsingle] at this
  simpa using this

theorem OnlyTask.of_wf {m : Model} (wf : Place.PlaceWF m) {c t : Nat}
    (hsingle : (m.comp c).tasks = [t]) : OnlyTask m c t :=
  .of_tasks (fun t' ht' hc' => wf.comp_tasks t' ht' c hc') hsingle

/-- the live state with facility `f` handed back (its assignment list emptied) -/
def freed (l : Live) (f : Nat) : Live := { l with fasg := upd l.fasg f [] }

end Pairs

namespace NoWait

/-! ### C06 (a) -/

theorem update_ready (m : Model) (time : Nat) (l : Live) {t : Nat} (ht : t < m.nT) :
    ¬ ((update m time l).tstate t = .none ∧ readyGate m (update m time l).tstate t = true) := by
  rw [Lifecycle.update_tstate]
  exact Lifecycle.chkReady_complete m _ t ht

/-- the forward form: of the three things `__update` can do to a task only READY marking is left -/
theorem update_ready_next (m : Model) (time : Nat) (l : Live) {t : Nat} (ht : t < m.nT)
    (h0 : l.tstate t = .none) (hg : readyGate m (update m time l).tstate t = true) :
    (update m time l).tstate t = .ready ∧ (update m time l).rem t = l.rem t := by
  rcases Perform.update_cases m time l t with ⟨h1, _⟩ | ⟨_, h1, h2, _⟩ | ⟨h1, _⟩
  · exact absurd ⟨h1.trans h0, hg⟩ (update_ready m time l ht)
  · exact ⟨h1, h2⟩
  · rw [h0] at h1; cases h1

/-! ### C06 (b) -/

theorem chkWorking_ready_iff (m : Model) (l : Live) {t : Nat} (ht : t < m.nT) :
    (chkWorking m l).tstate t = .ready ↔ l.tstate t = .ready ∧ workingTarget m l t = false := by
  rw [chkWorking_tstate]
  by_cases hr : l.tstate t = .ready
  · cases htar : workingTarget m l t
    · rw [if_neg (by simp)]; simp [hr]
    · rw [if_pos ⟨ht, rfl, hr⟩]; simp
  · rw [if_neg fun h => hr h.2.2]; simp [hr]

theorem chkWorking_ready (m : Model) (l : Live) {t : Nat} (ht : t < m.nT)
    (h : (chkWorking m l).tstate t = .ready) : l.tstate t = .ready ∧ l.allocW t = [] := by
  obtain ⟨hl, htar⟩ := (chkWorking_ready_iff m l ht).mp h
  refine ⟨hl, Classical.byContradiction fun hne => ?_⟩
  rw [workingTarget_of_alloc (Or.inl hl) hne] at htar; cases htar

theorem chkWorking_auto (m : Model) (l : Live) {t : Nat} (ht : t < m.nT)
    (ha : (m.task t).isAuto = true) (hc : (m.task t).comp = Option.none) :
    (chkWorking m l).tstate t ≠ .ready := by
  intro h
  obtain ⟨hl, htar⟩ := (chkWorking_ready_iff m l ht).mp h
  simp [workingTarget, hl, ha, hc] at htar

/-- `hact`: at a project absence step with the flag off nothing starts -/
theorem stepBody_auto_ne_ready (m : Model) (p : Params) (s : St) {t : Nat} (ht : t < m.nT)
    (ha : (m.task t).isAuto = true) (hc : (m.task t).comp = Option.none)
    (hact : activeAt p s.time = true) :
    (stepBody m p s).live.tstate t ≠ .ready := by
  rw [Lifecycle.stepBody_tstate, Lifecycle.startGuard_eq_activeAt, hact]
  exact chkWorking_auto m _ ht ha hc

/-! ### C06 (d) -/

theorem update_finish (m : Model) (time : Nat) (l : Live) {t : Nat} (ht : t < m.nT) :
    ¬ ((update m time l).tstate t = .working ∧ (update m time l).rem t ≤ 0 ∧
       finishGate m (update m time l).tstate t = true) := by
  rintro ⟨h1, h2, h3⟩
  rw [Lifecycle.update_finishGate] at h3
  rw [Perform.update_rem] at h2
  -- READY marking leaves a WORKING task alone
  rw [← beq_iff_eq, (Lifecycle.update_NR m time l).working t, beq_iff_eq] at h1
  exact Finish.chkFinished_complete l t ht ⟨h1, h2, h3⟩

/-- the forward form: of the three things `__update` can do to a task only finishing is left -/
theorem update_finish_next (m : Model) (time : Nat) (l : Live) {t : Nat} (ht : t < m.nT)
    (hw : l.tstate t = .working) (hr : l.rem t ≤ 0)
    (hg : finishGate m (update m time l).tstate t = true) :
    (update m time l).tstate t = .finished ∧ (update m time l).rem t = 0 := by
  rcases Perform.update_cases m time l t with ⟨h1, h2⟩ | ⟨h1, _⟩ | ⟨_, _, h⟩
  · exact absurd ⟨h1.trans hw, h2 ▸ hr, hg⟩ (update_finish m time l ht)
  · rw [hw] at h1; cases h1
  · exact h

/-! ### C06 (c) and C11: the pass cut at the turn of a task -/

/-- With which facility the refusals of C06 (c) and C11 are stated, `l'` being the state after the
pass.  A task that needs no facility is asked with `f = none`.  A task that needs one is asked with
every eligible facility that is FREE (a pass does not change facility states) and belongs to the
workplace where the task's component stands in `l'` — provided the component carries no other
task, so that it moves at the turn of `t` only and `allocPairs` has run at that workplace. -/
inductive Offered (m : Model) (l' : Live) (t : Nat) : Option Nat → Prop
  | none (hnf : (m.task t).needFac = false) : Offered m l' t Option.none
  | pair {c p f : Nat} (hnf : (m.task t).needFac = true) (hc : (m.task t).comp = some c)
      (honly : Pairs.OnlyTask m c t) (hp : l'.placed c = some p) (hf : f ∈ (m.wp p).facs)
      (hff : l'.fstate f = .free) (hs : hasSkill (m.fac f).skills (m.task t).name = true)
      (ht : wpTargets m f t = true) : Offered m l' t (some f)

section turn
variable {m : Model} {lg : Logs} {rule : TaskRule} {l : Live} {pre post : List Nat} {t : Nat}
  {a0 a1 b : Alloc}

theorem _root_.PDesy.Turn.only (h : Turn m lg rule l pre t post a0 a1 b) {c : Nat}
    (honly : Pairs.OnlyTask m c t) :
    (∀ t' ∈ pre, (m.task t').comp ≠ some c) ∧ ∀ t' ∈ post, (m.task t').comp ≠ some c :=
  ⟨fun t' ht' hc' => h.once.1 (honly t' (h.lt (List.mem_append_left _ ht')) hc' ▸ ht'),
    fun t' ht' hc' => h.once.2.1
      (honly t' (h.lt (List.mem_append_right _ (List.mem_cons_of_mem _ ht'))) hc' ▸ ht')⟩

theorem _root_.PDesy.Turn.settled (h : Turn m lg rule l pre t post a0 a1 b)
    (hna : (m.task t).isAuto = false) {f : Option Nat}
    (hoff : Offered m (allocate m lg rule l) t f) : Settled m a1 t f := by
  rw [h.turn]
  cases hoff with
  | none hnf => exact allocTask_settled hna hnf h.nodup
  | @pair c _ _ hnf hc honly hp hf hff hs ht =>
    rw [h.result, h.after.pass.placed_other c (h.only honly).2, h.turn] at hp
    rw [(allocate_afterPass m lg rule l).fs] at hff
    exact allocTask_settled_pair hna hnf a0 hc hp hf (h.before.pass.fstate ▸ hff) hs ht

end turn

theorem sublist_pair_split {a b : Nat} {xs : List Nat} (h : List.Sublist [a, b] xs) :
    ∃ pre post, xs = pre ++ a :: post ∧ b ∈ post := by
  obtain ⟨r₁, r₂, rfl, ha, hb⟩ := List.cons_sublist_iff.mp h
  obtain ⟨pre, post, rfl⟩ := List.append_of_mem ha
  exact ⟨pre, post ++ r₂, by rw [List.append_assoc, List.cons_append],
    List.mem_append_right _ (List.singleton_sublist.mp hb)⟩

/-- C06 (c) for one pass: worker form (`f = none`) and pair form -/
theorem allocate_idle (m : Model) (lg : Logs) (rule : TaskRule) (l : Live) {t w : Nat}
    {f : Option Nat} (hw : w < m.nW) (hfree : (allocate m lg rule l).wstate w = .free)
    (hidle : (allocate m lg rule l).wasg w = [])
    (ht : t < m.nT) (hs : l.tstate t = .ready ∨ l.tstate t = .working)
    (hna : (m.task t).isAuto = false)
    (hoff : Offered m (allocate m lg rule l) t f)
    (hskill : hasSkill (m.worker w).skills (m.task t).name = true)
    (hteam : teamTargets m w t = true) :
    canAdd m (allocate m lg rule l) t (some w) f = false := by
  obtain ⟨pre, post, a0, a1, b, h⟩ := allocate_turn (lg := lg) (rule := rule) ht hs
  rw [(allocate_afterPass m lg rule l).ws] at hfree
  exact h.refused (h.settled hna hoff) (h.free_of_idle hw hfree hidle) hskill hteam

/-- C11 (no inversion) for one pass, worker form and pair form; `t1` before `t2` by position -/
theorem allocate_no_inversion_pos (m : Model) (lg : Logs) (rule : TaskRule) (l : Live)
    {pre post : List Nat} {t1 t2 w : Nat} {f : Option Nat}
    (hsorted : sortTasks m l lg rule (cands m l) = pre ++ t1 :: post) (h2 : t2 ∈ post)
    (hna : (m.task t1).isAuto = false)
    (hoff : Offered m (allocate m lg rule l) t1 f)
    (hnew : w ∈ (allocate m lg rule l).allocW t2) (hold : w ∉ l.allocW t2)
    (hskill : hasSkill (m.worker w).skills (m.task t1).name = true)
    (hteam : teamTargets m w t1 = true) :
    canAdd m (allocate m lg rule l) t1 (some w) f = false := by
  obtain ⟨a0, a1, b, h⟩ := allocate_split hsorted
  exact h.refused (h.settled hna hoff) (h.free_of_later h2 hnew hold) hskill hteam

theorem allocate_no_inversion (m : Model) (lg : Logs) (rule : TaskRule) (l : Live)
    {t1 t2 w : Nat} {f : Option Nat}
    (hord : List.Sublist [t1, t2] (sortTasks m l lg rule (cands m l)))
    (hna : (m.task t1).isAuto = false)
    (hoff : Offered m (allocate m lg rule l) t1 f)
    (hnew : w ∈ (allocate m lg rule l).allocW t2) (hold : w ∉ l.allocW t2)
    (hskill : hasSkill (m.worker w).skills (m.task t1).name = true)
    (hteam : teamTargets m w t1 = true) :
    canAdd m (allocate m lg rule l) t1 (some w) f = false := by
  obtain ⟨pre, post, e, h2⟩ := sublist_pair_split hord
  exact allocate_no_inversion_pos m lg rule l e h2 hna hoff hnew hold hskill hteam

/-! ### the facility side of "no inversion"

A FACILITY goes to a later task.  In the final state `can_add_resources` refuses it for the trivial
reason that it is taken, so the statement is made about the state with the facility handed back
(`Pairs.freed`): the earlier task had refused it for another reason, and that reason persists.  (A
WORKER going to a later task is the case `f = some _` of `allocate_no_inversion`.) -/

theorem _root_.PDesy.Reach.canAdd_freed_false {m : Model} {T : Nat → Prop} {a b : Alloc}
    (h : Reach m T a b) {t w f : Nat}
    (hc : canAdd m (Pairs.freed a.l f) t (some w) (some f) = false) :
    canAdd m (Pairs.freed b.l f) t (some w) (some f) = false := by
  rw [canAdd_false_iff] at hc ⊢
  refine fun h' => hc ⟨h'.1.anti (congrFun h.pass.tstate t ▸ id)
    (fun _ hx => (h.pass.prefixW t).subset hx) (fun _ hx => (h.pass.prefixF t).subset hx) ?_, h'.2⟩
  rintro f0 ⟨rfl⟩ _; simp [Pairs.freed]

theorem allocate_no_inversion_fac (m : Model) (lg : Logs) (rule : TaskRule) (l : Live)
    {t1 t2 w f : Nat}
    (hord : List.Sublist [t1, t2] (sortTasks m l lg rule (cands m l)))
    (hna : (m.task t1).isAuto = false)
    (hoff : Offered m (allocate m lg rule l) t1 (some f))
    (hnew : f ∈ (allocate m lg rule l).allocF t2) (hold : f ∉ l.allocF t2)
    (hw : w < m.nW) (hfree : (allocate m lg rule l).wstate w = .free)
    (hidle : (allocate m lg rule l).wasg w = [])
    (hskill : hasSkill (m.worker w).skills (m.task t1).name = true)
    (hteam : teamTargets m w t1 = true) :
    canAdd m (Pairs.freed (allocate m lg rule l) f) t1 (some w) (some f) = false := by
  obtain ⟨pre, post, e, h2⟩ := sublist_pair_split hord
  obtain ⟨a0, a1, b, h⟩ := allocate_split e
  rw [(allocate_afterPass m lg rule l).ws] at hfree
  -- `f` went to `t2` later, so it was unassigned after the turn of `t1`: handing it back changes
  -- nothing there, and there the pair was refused
  have hfa := h.unassigned_of_later h2 hnew hold
  rw [h.result]
  refine h.after.canAdd_freed_false ?_
  rw [← h.settled hna hoff w (h.free_of_idle hw hfree hidle) hskill hteam]
  exact canAdd_congr Iff.rfl rfl rfl (by rintro f0 ⟨rfl⟩; simp [Pairs.freed, hfa])

/-! ### the end of a working step, read back to the allocation pass -/

/-- `absenceSet` writes the states of workers and facilities, which neither the candidates nor
their order read -/
theorem sortTasks_absenceSet (m : Model) (time : Nat) (wk : Bool) (l : Live) (lg : Logs)
    (rule : TaskRule) :
    sortTasks m (absenceSet m time wk l) lg rule (cands m (absenceSet m time wk l)) =
      sortTasks m l lg rule (cands m l) := by
  rw [absenceSet_eq]; rfl

section work
variable (m : Model) (p : Params) (s : St) (hwork : p.absence.contains s.time = false)
include hwork

theorem stepBody_work :
    (stepBody m p s).live =
      { allocate m s.logs p.rule (absenceSet m s.time true s.live) with
        tstate := (chkWorking m (allocate m s.logs p.rule (absenceSet m s.time true s.live))).tstate
        wstate := (stepBody m p s).live.wstate, fstate := (stepBody m p s).live.fstate
        cstate := (stepBody m p s).live.cstate, rem := (stepBody m p s).live.rem } := by
  have h := Lifecycle.stepBody_frame m p s
  rwa [Lifecycle.stepBody_tstate, Lifecycle.startGuard_of_working p s hwork,
    Lifecycle.chkWorkingIf_true, Lifecycle.preWorking_on m p s hwork] at h

theorem stepBody_lists_work :
    (stepBody m p s).live.allocW =
      (allocate m s.logs p.rule (absenceSet m s.time true s.live)).allocW ∧
    (stepBody m p s).live.placed =
      (allocate m s.logs p.rule (absenceSet m s.time true s.live)).placed ∧
    (stepBody m p s).live.wpComps =
      (allocate m s.logs p.rule (absenceSet m s.time true s.live)).wpComps := by
  rw [stepBody_work m p s hwork]
  -- `with_reducible`: otherwise `rfl` first tries to unify the record with `allocate …`, at length
  with_reducible exact ⟨rfl, rfl, rfl⟩

theorem stepBody_canAdd (t : Nat) (w f : Option Nat) :
    canAdd m (stepBody m p s).live t w f =
      canAdd m (allocate m s.logs p.rule (absenceSet m s.time true s.live)) t w f := by
  refine canAdd_congr ?_ ?_ ?_ fun f0 _ => ?_
  · rw [(Lifecycle.stepBody_start m p s).open_iff, (allocate_afterPass m s.logs p.rule _).ts,
      Lifecycle.absenceSet_tstate]
  all_goals rw [stepBody_work m p s hwork]

theorem stepBody_placeOk (t c q : Nat) :
    placeOk m (stepBody m p s).live t c q =
      placeOk m (allocate m s.logs p.rule (absenceSet m s.time true s.live)) t c q := by
  obtain ⟨_, ep, ew⟩ := stepBody_lists_work m p s hwork
  exact Place.placeOk_congr (by rw [ep]) fun _ => Place.availSpace_congr (by rw [ew])

/-- the pass only assigns, and `check_state(WORKING)` starts whoever holds a worker -/
theorem stepBody_ready_work {t : Nat} (ht : t < m.nT)
    (hs : (stepBody m p s).live.tstate t = .ready) :
    (absenceSet m s.time true s.live).tstate t = .ready ∧
    (absenceSet m s.time true s.live).allocW t = [] := by
  rw [stepBody_work m p s hwork] at hs
  obtain ⟨hs2, hw2⟩ := chkWorking_ready m _ ht hs
  have hp := allocate_afterPass m s.logs p.rule (absenceSet m s.time true s.live)
  exact ⟨hp.ts ▸ hs2, List.prefix_nil.mp (hw2 ▸ hp.prefixW t)⟩

theorem stepBody_no_inversion {t1 t2 w : Nat} {f : Option Nat}
    (hord : List.Sublist [t1, t2] (sortTasks m s.live s.logs p.rule (cands m s.live)))
    (hna : (m.task t1).isAuto = false)
    (hoff : Offered m (allocate m s.logs p.rule (absenceSet m s.time true s.live)) t1 f)
    (hnew : w ∈ (stepBody m p s).live.allocW t2) (hold : w ∉ s.live.allocW t2)
    (hskill : hasSkill (m.worker w).skills (m.task t1).name = true)
    (hteam : teamTargets m w t1 = true) :
    canAdd m (stepBody m p s).live t1 (some w) f = false := by
  rw [stepBody_canAdd m p s hwork]
  rw [(stepBody_lists_work m p s hwork).1] at hnew
  rw [← sortTasks_absenceSet m s.time true] at hord
  exact allocate_no_inversion m s.logs p.rule _ hord hna hoff hnew
    (by rw [absenceSet_eq]; exact hold) hskill hteam

variable (hinv : AllocInv m s.live) (hhw : HoldWorking s.live)
include hinv hhw

theorem stepBody_res_work :
    (∀ w, w < m.nW → (stepBody m p s).live.wstate w =
      resState ((m.worker w).absence.contains s.time) ((stepBody m p s).live.wasg w)) ∧
    (∀ f, f < m.nF → (stepBody m p s).live.fstate f =
      resState ((m.fac f).absence.contains s.time) ((stepBody m p s).live.fasg f)) := by
  have h := (AllocInv_stepBody p hinv hhw).2.2
  rwa [workingAt_true_iff.2 hwork] at h

theorem stepBody_free_work :
    (∀ w, w < m.nW → (stepBody m p s).live.wstate w = .free →
      (allocate m s.logs p.rule (absenceSet m s.time true s.live)).wstate w = .free ∧
      (allocate m s.logs p.rule (absenceSet m s.time true s.live)).wasg w = []) ∧
    (∀ f, f < m.nF → (stepBody m p s).live.fstate f = .free →
      (allocate m s.logs p.rule (absenceSet m s.time true s.live)).fstate f = .free ∧
      (allocate m s.logs p.rule (absenceSet m s.time true s.live)).fasg f = []) := by
  obtain ⟨hW, hF⟩ := stepBody_res_work m p s hwork hinv hhw
  have hp := allocate_afterPass m s.logs p.rule (absenceSet m s.time true s.live)
  have hr := ResInv_absenceSet m s.time true s.live
  constructor
  · intro w hw hfree
    have h := hW w hw
    rw [hfree, stepBody_work m p s hwork] at h
    rw [hp.ws, hr.1 w hw]
    exact resState_free_before h.symm (hp.wasg_nil w)
  · intro f hf hfree
    have h := hF f hf
    rw [hfree, stepBody_work m p s hwork] at h
    rw [hp.fs, hr.2 f hf]
    exact resState_free_before h.symm (hp.fasg_nil f)

/-- `hfl`: C03 determines the state of the facilities below `nF` only -/
theorem stepBody_offered {t : Nat} {f : Option Nat} (hfl : ∀ f0, f = some f0 → f0 < m.nF)
    (hoff : Offered m (stepBody m p s).live t f) :
    Offered m (allocate m s.logs p.rule (absenceSet m s.time true s.live)) t f := by
  cases hoff with
  | none hnf => exact .none hnf
  | @pair _ _ f hnf hc honly hp hf hff hs ht =>
    rw [(stepBody_lists_work m p s hwork).2.1] at hp
    exact .pair hnf hc honly hp hf
      ((stepBody_free_work m p s hwork hinv hhw).2 f (hfl f rfl) hff).1 hs ht

theorem stepBody_idle {t w : Nat} {f : Option Nat}
    (hw : w < m.nW) (hfree : (stepBody m p s).live.wstate w = .free)
    (ht : t < m.nT)
    (hs : (stepBody m p s).live.tstate t = .ready ∨ (stepBody m p s).live.tstate t = .working)
    (hna : (m.task t).isAuto = false)
    (hoff : Offered m (allocate m s.logs p.rule (absenceSet m s.time true s.live)) t f)
    (hskill : hasSkill (m.worker w).skills (m.task t).name = true)
    (hteam : teamTargets m w t = true) :
    canAdd m (stepBody m p s).live t (some w) f = false := by
  obtain ⟨hw1, hidle⟩ := (stepBody_free_work m p s hwork hinv hhw).1 w hw hfree
  rw [stepBody_canAdd m p s hwork]
  exact allocate_idle m s.logs p.rule _ hw hw1 hidle ht
    ((Lifecycle.stepBody_start m p s).open_iff t |>.mp hs) hna hoff hskill hteam

end work

end NoWait

/-! Nothing in the library rests on what follows; the names are end results of the development and
stay. -/

namespace Pairs

open NoWait

theorem OnlyTask.others {m : Model} {l : Live} {lg : Logs} {rule : TaskRule} {c t : Nat}
    (h : OnlyTask m c t) {pre post : List Nat}
    (hsorted : sortTasks m l lg rule (cands m l) = pre ++ t :: post) (hn : t ∉ post) :
    ∀ t' ∈ post, (m.task t').comp ≠ some c := by
  obtain ⟨a0, a1, b, hT⟩ := allocate_split hsorted
  exact (hT.only h).2

end Pairs
end PDesy
