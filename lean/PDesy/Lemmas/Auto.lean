/-
  PDesy.Lemmas.Auto — "a sub-project task lasts exactly as long as the sub-project it stands for"
  (C20).  For the simulator a sub-project task is an automatic task without component
  (`SubTask`).  The file follows one such task through the loop: what `__update` and the step do to
  it in one iteration, and from there its whole occupation (`run_occ`): READY until the first active
  step (nothing starts at a project absence step with the flag off), WORKING from then to the `n`-th
  active step, where `n = ⌈D / r⌉` (`IsCeil`), FINISHED afterwards.  The end of the file reads the rows
  which these iterations append to the task's state log (`repeat_iter_tState`, `count_shownWorking`).
-/
import PDesy.Lemmas.NoWait
import PDesy.Lemmas.Edit

namespace PDesy

variable {m : Model} {t : Nat}

/-! `iter` (Model/SubProject) is an iteration of `loop` that is not an exit: the recorded states of
a run arise from one another by `iter` (`trace_add_eq_repeat_iter`).  The liveness argument of
Live.lean counts such iterations too. -/

theorem iter_eq (p : Params) (s : St) : iter m p s = stepBody m p (updated m s) := rfl

@[simp] theorem iter_time (p : Params) (s : St) : (iter m p s).time = s.time + 1 := rfl

theorem trace_add_eq_repeat_iter (p : Params) (fuel : Nat) (s : St) (j k : Nat)
    (h : j + k < (trace m p fuel s).length) :
    (trace m p fuel s)[j + k] = Nat.repeat (iter m p) k
      ((trace m p fuel s)[j]'(Nat.lt_of_le_of_lt (Nat.le_add_right j k) h)) := by
  induction k with
  | zero => rfl
  | succ k ih =>
    show (trace m p fuel s)[j + k + 1] = iter m p _
    rw [trace_succ fuel s (j + k) h, ih (Nat.lt_of_succ_lt h), iter_eq]

theorem repeat_iter_time (p : Params) (s : St) (k : Nat) :
    (Nat.repeat (iter m p) k s).time = s.time + k := by
  induction k with
  | zero => rfl
  | succ k ih => show (iter m p _).time = _; rw [iter_time, ih]; omega

/-- the premises are those of `LoopInv.of_live` -/
theorem repeat_iter_inv {I : Live → Prop} (p : Params)
    (hupd : ∀ time l, I l → I (update m time l))
    (hstep : ∀ s, I s.live → I (stepBody m p s).live) {s : St} (hs : I s.live) (k : Nat) :
    I (Nat.repeat (iter m p) k s).live := by
  induction k with
  | zero => exact hs
  | succ k ih => exact hstep _ (hupd _ _ ih)

namespace Auto
open Perform

/-- no finish-gated (FF / SF) input dependency -/
def NoFinDeps (m : Model) (t : Nat) : Prop := ∀ e ∈ (m.task t).inputs, e.2 = .fs ∨ e.2 = .ss

instance (m : Model) (t : Nat) : Decidable (NoFinDeps m t) := by
  unfold NoFinDeps; infer_instance

/-- what the simulator sees of a sub-project task: a task of the model that is automatic, is
bound to no component and has no finish-gated input (`nofin` is what lets it finish as soon as its
work is done, `iter_working_done`; starting and progressing need the first three only) -/
structure SubTask (m : Model) (t : Nat) : Prop where
  lt : t < m.nT
  auto : (m.task t).isAuto = true
  nocomp : (m.task t).comp = Option.none
  nofin : NoFinDeps m t

theorem update_keep (time : Nat) (l : Live) (h0 : l.tstate t ≠ .none)
    (h : ¬ (l.tstate t = .working ∧ l.rem t ≤ 0)) :
    (update m time l).tstate t = l.tstate t ∧ (update m time l).rem t = l.rem t := by
  rcases Perform.update_cases m time l t with h1 | ⟨h1, _⟩ | ⟨h1, h2, _⟩
  · exact h1
  · exact absurd h1 h0
  · exact absurd ⟨h1, h2⟩ h

theorem stepBody_rem_keep (p : Params) (s : St) (h : (stepBody m p s).live.tstate t ≠ .working) :
    (stepBody m p s).live.rem t = s.live.rem t := by
  rw [Perform.stepBody_tstate_preCost] at h
  rw [stepBody_rem, if_neg fun hc => h hc.2.1]

theorem stepBody_keep (p : Params) (s : St)
    (h : s.live.tstate t = .none ∨ s.live.tstate t = .finished) :
    (stepBody m p s).live.tstate t = s.live.tstate t ∧
    (stepBody m p s).live.rem t = s.live.rem t := by
  have h1 : (stepBody m p s).live.tstate t = s.live.tstate t :=
    (Lifecycle.stepBody_start m p s t).resolve_right fun e => by
      rcases h with h | h <;> rw [h] at e <;> cases e.1
  refine ⟨h1, stepBody_rem_keep p s ?_⟩
  rw [h1]
  rcases h with h | h <;> rw [h] <;> exact fun e => by cases e

theorem active_iff (p : Params) (k : Nat) (ha : (m.task t).isAuto = true) :
    (workingAt p k = true ∨ (p.autoFlag = true ∧ (m.task t).isAuto = true)) ↔
      activeAt p k = true := by
  simp [workingAt, activeAt, ha]

theorem activeAt_of_working {p : Params} {k : Nat} (h : p.absence.contains k = false) :
    activeAt p k = true := by
  unfold activeAt; rw [h]; rfl

theorem stepBody_auto (p : Params) (s : St) (ht : t < m.nT)
    (ha : (m.task t).isAuto = true) (hc : (m.task t).comp = Option.none)
    (h : s.live.tstate t = .ready ∨ s.live.tstate t = .working) :
    (stepBody m p s).live.tstate t =
      (if activeAt p s.time = true then .working else s.live.tstate t) ∧
    (stepBody m p s).live.rem t =
      s.live.rem t - (if activeAt p s.time = true then (m.task t).autoRate else 0) := by
  rw [stepBody_rem, contrib_auto _ ha, ← Perform.stepBody_tstate_preCost]
  by_cases hact : activeAt p s.time = true
  · -- READY or WORKING as before the step, and not READY (C06 (b))
    have hw : (stepBody m p s).live.tstate t = .working :=
      (((Lifecycle.stepBody_start m p s).open_iff t).mpr h).resolve_left
        (NoWait.stepBody_auto_ne_ready m p s ht ha hc hact)
    rw [if_pos hact, if_pos hact, if_pos ⟨ht, hw, (active_iff p s.time ha).mpr hact⟩]
    exact ⟨hw, rfl⟩
  · rw [if_neg hact, if_neg hact, if_neg fun h => hact ((active_iff p s.time ha).mp h.2.2), sub_zero,
      Lifecycle.stepBody_tstate_inactive m p s
        ((Lifecycle.startGuard_eq_activeAt p s).trans (Bool.eq_false_iff.mpr hact))]
    exact ⟨rfl, rfl⟩

/-- `hu`: the task was READY, or it was NONE and its start gate has opened -/
theorem iter_start (h : SubTask m t) (p : Params) (s : St)
    (hu : (update m s.time s.live).tstate t = .ready) :
    (iter m p s).live.tstate t = (if activeAt p s.time = true then .working else .ready) ∧
    (iter m p s).live.rem t =
      s.live.rem t - (if activeAt p s.time = true then (m.task t).autoRate else 0) := by
  have h1 := stepBody_auto p (updated m s) h.lt h.auto h.nocomp (Or.inl hu)
  have hrem : (updated m s).live.rem t = s.live.rem t := by
    show (update m s.time s.live).rem t = _
    rw [update_rem_eq, if_neg]
    rw [hu]; exact fun h => by cases h.1
  rwa [hrem, show (updated m s).live.tstate t = .ready from hu] at h1

theorem iter_open (h : SubTask m t) (p : Params) (s : St)
    (hs : s.live.tstate t = .ready ∨ s.live.tstate t = .working)
    (hd : ¬ (s.live.tstate t = .working ∧ s.live.rem t ≤ 0)) :
    (iter m p s).live.tstate t =
      (if activeAt p s.time = true then .working else s.live.tstate t) ∧
    (iter m p s).live.rem t =
      s.live.rem t - (if activeAt p s.time = true then (m.task t).autoRate else 0) := by
  obtain ⟨e1, e2⟩ : (updated m s).live.tstate t = s.live.tstate t ∧
      (updated m s).live.rem t = s.live.rem t :=
    update_keep s.time s.live (by rcases hs with hs | hs <;> rw [hs] <;> exact fun h => by cases h) hd
  have h1 := stepBody_auto p (updated m s) h.lt h.auto h.nocomp (by rw [e1]; exact hs)
  rwa [e1, e2] at h1

theorem iter_working_done (h : SubTask m t) (p : Params) (s : St)
    (hs : s.live.tstate t = .working) (hr : s.live.rem t ≤ 0) :
    (iter m p s).live.tstate t = .finished ∧ (iter m p s).live.rem t = 0 := by
  obtain ⟨e1, e2⟩ : (updated m s).live.tstate t = .finished ∧ (updated m s).live.rem t = 0 :=
    NoWait.update_finish_next m s.time s.live h.lt hs hr
      (Lifecycle.finishGate_of_inputs m _ t h.nofin)
  obtain ⟨h1, h2⟩ := stepBody_keep p (updated m s) (Or.inr e1)
  exact ⟨h1.trans e1, h2.trans e2⟩

theorem iter_finished (p : Params) (s : St) (hs : s.live.tstate t = .finished) :
    (iter m p s).live.tstate t = .finished ∧ (iter m p s).live.rem t = s.live.rem t := by
  obtain ⟨e1, e2⟩ : (updated m s).live.tstate t = s.live.tstate t ∧
      (updated m s).live.rem t = s.live.rem t :=
    update_keep s.time s.live (by rw [hs]; exact fun h => by cases h)
      (by rw [hs]; exact fun h => by cases h.1)
  obtain ⟨h1, h2⟩ := stepBody_keep p (updated m s) (Or.inr (e1.trans hs))
  exact ⟨h1.trans (e1.trans hs), h2.trans e2⟩

theorem iter_none (p : Params) (s : St) (h0 : s.live.tstate t = .none)
    (hg : readyGate m (update m s.time s.live).tstate t = false) :
    (iter m p s).live.tstate t = .none ∧ (iter m p s).live.rem t = s.live.rem t := by
  obtain ⟨e1, e2⟩ : (updated m s).live.tstate t = .none ∧
      (updated m s).live.rem t = s.live.rem t := by
    rcases Perform.update_cases m s.time s.live t with ⟨h1, h2⟩ | ⟨_, _, _, h1⟩ | ⟨h1, _⟩
    · exact ⟨h1.trans h0, h2⟩
    · rw [hg] at h1; cases h1
    · rw [h0] at h1; cases h1
  obtain ⟨h1, h2⟩ := stepBody_keep p (updated m s) (Or.inl e1)
  exact ⟨h1.trans e1, h2.trans e2⟩

theorem iter_rem_keep (p : Params) (s : St)
    (h : (iter m p s).live.tstate t = .none ∨ (iter m p s).live.tstate t = .ready) :
    (iter m p s).live.rem t = s.live.rem t := by
  rw [iter_eq, stepBody_rem_keep p (updated m s)
    (by rcases h with h | h <;> rw [← iter_eq, h] <;> exact fun e => by cases e)]
  show (update m s.time s.live).rem t = _
  rw [update_rem_eq, if_neg]
  rintro ⟨hf, _⟩
  -- FINISHED after `__update` is FINISHED at the end of the iteration
  have := Lifecycle.Mono.finished (Lifecycle.stepBody_mono m p (updated m s)) hf
  rcases h with h | h <;> rw [iter_eq, this] at h <;> cases h

/-- number of active steps among the `k` steps executed at times `τ, …, τ + k - 1` -/
def acts (p : Params) (τ k : Nat) : Nat :=
  ((List.range k).filter fun j => activeAt p (τ + j)).length

@[simp] theorem acts_zero (p : Params) (τ : Nat) : acts p τ 0 = 0 := rfl

theorem acts_succ (p : Params) (τ k : Nat) :
    acts p τ (k + 1) = acts p τ k + (if activeAt p (τ + k) = true then 1 else 0) := by
  unfold acts
  rw [List.range_succ, List.filter_append, List.length_append]
  by_cases h : activeAt p (τ + k) = true <;> simp [h]

theorem acts_le_succ (p : Params) (τ k : Nat) : acts p τ k ≤ acts p τ (k + 1) := by
  rw [acts_succ]; exact Nat.le_add_right _ _

theorem acts_succ_le (p : Params) (τ k : Nat) : acts p τ (k + 1) ≤ acts p τ k + 1 := by
  rw [acts_succ]; split
  · exact Nat.le_refl _
  · exact Nat.le_succ _

theorem acts_mono (p : Params) (τ : Nat) {j k : Nat} (h : j ≤ k) : acts p τ j ≤ acts p τ k := by
  induction h with
  | refl => exact Nat.le_refl _
  | step _ ih => exact Nat.le_trans ih (acts_le_succ p τ _)

theorem acts_succ_eq_zero_iff (p : Params) (τ k : Nat) :
    acts p τ (k + 1) = 0 ↔ acts p τ k = 0 ∧ ¬ activeAt p (τ + k) = true := by
  rw [acts_succ]; split <;> simp [*]

/-- `hK`, `hK'`: iteration `K + 1` is the one in which the `n`-th active step happens -/
theorem acts_lt_iff (p : Params) (τ : Nat) {n K : Nat} (hK : acts p τ K < n)
    (hK' : acts p τ (K + 1) = n) (j : Nat) : acts p τ j < n ↔ j ≤ K := by
  constructor
  · intro h
    apply Nat.le_of_not_lt
    intro hlt
    exact Nat.lt_irrefl n (Nat.lt_of_le_of_lt (hK' ▸ acts_mono p τ (show K + 1 ≤ j from hlt)) h)
  · intro h
    exact Nat.lt_of_le_of_lt (acts_mono p τ h) hK

theorem acts_all_active (p : Params) (τ k : Nat) (h : ∀ j, j < k → activeAt p (τ + j) = true) :
    acts p τ k = k := by
  induction k with
  | zero => rfl
  | succ k ih =>
    rw [acts_succ, ih fun j hj => h j (Nat.lt_succ_of_lt hj), if_pos (h k (Nat.lt_succ_self k))]

/-- the inactive steps are absence steps: at most `p.absence.length` of them in any window -/
theorem acts_ge (p : Params) (τ k : Nat) : k ≤ acts p τ k + p.absence.length := by
  have hsub : (((List.range k).filter fun j => !activeAt p (τ + j)).map (τ + ·)) ⊆ p.absence := by
    intro x hx
    obtain ⟨j, hj, rfl⟩ := List.mem_map.mp hx
    have := (List.mem_filter.mp hj).2
    simp only [activeAt, Bool.not_or, Bool.not_not, Bool.and_eq_true] at this
    simpa using this.1
  have hnd : (((List.range k).filter fun j => !activeAt p (τ + j)).map (τ + ·)).Nodup :=
    List.Pairwise.map _ (fun a b (h : a ≠ b) => by omega)
      (List.nodup_range.sublist List.filter_sublist)
  have hle := hnd.length_le_of_subset hsub
  have hpart := List.length_eq_countP_add_countP (fun j => activeAt p (τ + j)) (l := List.range k)
  simp only [List.length_range, List.countP_eq_length_filter, Bool.not_eq_true,
    Bool.decide_eq_false] at hpart
  rw [List.length_map] at hle
  unfold acts
  omega

theorem exists_first (p : Params) (τ n M : Nat) (hn : 0 < n) (hM : n ≤ acts p τ M) :
    ∃ K, K < M ∧ acts p τ K < n ∧ acts p τ (K + 1) = n := by
  induction M with
  | zero => exact absurd hM (Nat.not_le.mpr hn)
  | succ M ih =>
    by_cases h : n ≤ acts p τ M
    · obtain ⟨K, hK, h1, h2⟩ := ih h
      exact ⟨K, Nat.lt_succ_of_lt hK, h1, h2⟩
    · -- the `n`-th active step is step `M`
      exact ⟨M, Nat.lt_succ_self M, Nat.not_le.mp h,
        Nat.le_antisymm (Nat.le_trans (acts_succ_le p τ M) (Nat.not_le.mp h)) hM⟩

theorem exists_nth_lt (p : Params) (τ n : Nat) (hn : 0 < n) :
    ∃ K, K < n + p.absence.length ∧ acts p τ K < n ∧ acts p τ (K + 1) = n :=
  exists_first p τ n (n + p.absence.length) hn
    (Nat.le_of_add_le_add_right (acts_ge p τ (n + p.absence.length)))

/-- `n = ⌈D / r⌉` for `r > 0`, without division -/
def IsCeil (D r : Rat) (n : Nat) : Prop := ((n : Rat) - 1) * r < D ∧ D ≤ (n : Rat) * r

def ceilNat (x : Rat) : Nat := x.ceil.toNat

theorem ceilNat_spec {D r : Rat} (hD : 0 < D) (hr : 0 < r) :
    1 ≤ ceilNat (D / r) ∧ IsCeil D r (ceilNat (D / r)) := by
  have hc0 : (0 : Int) < (D / r).ceil := Rat.lt_ceil_iff.mpr (div_pos hD hr)
  have hcast : ((ceilNat (D / r) : Nat) : Rat) = (((D / r).ceil : Int) : Rat) := by
    unfold ceilNat
    rw [← Rat.intCast_natCast, Int.toNat_of_nonneg (Int.le_of_lt hc0)]
  refine ⟨by unfold ceilNat; omega, ?_, ?_⟩
  · rw [hcast]
    exact (Rat.lt_div_iff hr).mp (Rat.sub_lt_iff.mpr Rat.ceil_lt)
  · rw [hcast]
    exact Rat.not_lt.mp fun h => Rat.not_lt.mpr Rat.le_ceil ((Rat.lt_div_iff hr).mpr h)

namespace IsCeil

theorem rem_pos {D r : Rat} (hr : 0 < r) {n a : Nat} (h : IsCeil D r n) (ha : a < n) :
    0 < D - (a : Rat) * r := by
  have h1 : (a : Rat) ≤ (n : Rat) - 1 :=
    Rat.le_sub_iff.mpr (Rat.natCast_add a 1 ▸ Rat.natCast_le_natCast.mpr ha)
  exact (Rat.lt_iff_sub_pos _ _).mp
    (Std.lt_of_le_of_lt (Rat.mul_le_mul_of_nonneg_right h1 (Rat.le_of_lt hr)) h.1)

theorem rem_done {D r : Rat} {n : Nat} (h : IsCeil D r n) : D - (n : Rat) * r ≤ 0 :=
  Rat.sub_right_le_iff_le_add.mpr (Rat.zero_add _ ▸ h.2)

theorem unique {D r : Rat} (hr : 0 < r) {n n' : Nat} (h : IsCeil D r n)
    (h' : IsCeil D r n') : n = n' := by
  have key : ∀ a b : Nat, IsCeil D r a → IsCeil D r b → ¬ a < b := fun a b ha hb hlt =>
    Rat.not_le.mpr (hb.rem_pos hr hlt) ha.rem_done
  have := key n n' h h'; have := key n' n h' h
  omega

theorem pos {D r : Rat} (hD : 0 < D) {n : Nat} (h : IsCeil D r n) : 1 ≤ n := by
  rcases Nat.eq_zero_or_pos n with e | e
  · subst e
    have := h.2
    simp at this
    exact absurd hD (Rat.not_lt.mpr this)
  · exact e

end IsCeil

theorem sub_succ_mul (D a r : Rat) : D - (a + 1) * r = D - a * r - r := by
  rw [Rat.add_mul, Rat.one_mul, Rat.sub_eq_add_neg D, Rat.neg_add, ← Rat.add_assoc,
    ← Rat.sub_eq_add_neg, ← Rat.sub_eq_add_neg]

theorem rem_step (p : Params) (τ k : Nat) (D r : Rat) :
    D - (acts p τ k : Rat) * r - (if activeAt p (τ + k) = true then r else 0) =
      D - (acts p τ (k + 1) : Rat) * r := by
  rw [acts_succ]
  by_cases h : activeAt p (τ + k) = true
  · rw [if_pos h, if_pos h, Rat.natCast_add]; exact (sub_succ_mul D _ r).symm
  · rw [if_neg h, if_neg h, Nat.add_zero, sub_zero]

/-- the state the task is in after an iteration that started with work left, given the number of
active steps so far: READY until the first active step, WORKING from then on -/
def occState (a : Nat) : TS := if a = 0 then .ready else .working

theorem occState_eq_working_iff (a : Nat) : occState a = .working ↔ 1 ≤ a := by
  unfold occState
  split
  · rename_i h; rw [h]; exact ⟨fun e => (nomatch e), fun e => (nomatch e)⟩
  · rename_i h; exact ⟨fun _ => Nat.pos_of_ne_zero h, fun _ => rfl⟩

theorem occState_succ (p : Params) (τ k : Nat) :
    (if activeAt p (τ + k) = true then .working else occState (acts p τ k)) =
      occState (acts p τ (k + 1)) := by
  rw [acts_succ, occState, occState]
  split <;> simp

/-! The occupation after iteration `j + 1` from a state `s0` whose `__update` leaves the task READY
with work `D > 0`; `n = ⌈D / r⌉`. -/

section occ
variable (h : SubTask m t) (p : Params) (s0 : St) {D : Rat} {n : Nat}
  (hr : 0 < (m.task t).autoRate) (hD : 0 < D)
  (hstart : (update m s0.time s0.live).tstate t = .ready) (hrem : s0.live.rem t = D)
  (hn : IsCeil D (m.task t).autoRate n)
include h hr hstart hrem hn

/-- while fewer than `n` active steps have happened before an iteration, it starts with work left -/
theorem run_before (j : Nat) (hj : acts p s0.time j < n) :
    (Nat.repeat (iter m p) (j + 1) s0).live.tstate t = occState (acts p s0.time (j + 1)) ∧
    (Nat.repeat (iter m p) (j + 1) s0).live.rem t =
      D - (acts p s0.time (j + 1) : Rat) * (m.task t).autoRate := by
  induction j with
  | zero =>
    obtain ⟨h1, h2⟩ := iter_start h p s0 hstart
    rw [← occState_succ, ← rem_step, acts_zero]
    exact ⟨h1, h2.trans (by rw [hrem, show ((0 : Nat) : Rat) = 0 from rfl, Rat.zero_mul, sub_zero]; rfl)⟩
  | succ j ih =>
    obtain ⟨i1, i2⟩ := ih (Nat.lt_of_le_of_lt (acts_le_succ p s0.time j) hj)
    have htime := repeat_iter_time (m := m) p s0 (j + 1)
    show (iter m p (Nat.repeat (iter m p) (j + 1) s0)).live.tstate t = _ ∧
      (iter m p (Nat.repeat (iter m p) (j + 1) s0)).live.rem t = _
    generalize Nat.repeat (iter m p) (j + 1) s0 = s at i1 i2 htime ⊢
    rw [← occState_succ, ← rem_step, ← htime, ← i1, ← i2]
    refine iter_open h p s ?_ fun hd => Rat.not_le.mpr (hn.rem_pos hr hj) (i2 ▸ hd.2)
    rw [i1, occState]; split
    · exact Or.inl rfl
    · exact Or.inr rfl

include hD

/-- once `n` active steps have happened before an iteration, the task is FINISHED after it -/
theorem run_after (j : Nat) (hj : n ≤ acts p s0.time j) :
    (Nat.repeat (iter m p) (j + 1) s0).live.tstate t = .finished ∧
    (Nat.repeat (iter m p) (j + 1) s0).live.rem t = 0 := by
  have hn1 := hn.pos hD
  induction j with
  | zero => exact absurd hj (Nat.not_le.mpr hn1)
  | succ j ih =>
    show (iter m p (Nat.repeat (iter m p) (j + 1) s0)).live.tstate t = _ ∧
      (iter m p (Nat.repeat (iter m p) (j + 1) s0)).live.rem t = _
    by_cases hfin : n ≤ acts p s0.time j
    · obtain ⟨i1, i2⟩ := ih hfin
      exact ⟨(iter_finished p _ i1).1, (iter_finished p _ i1).2.trans i2⟩
    · -- the `n`-th active step has just happened: WORKING with no work left
      obtain ⟨i1, i2⟩ := run_before h p s0 hr hstart hrem hn j (Nat.not_le.mp hfin)
      rw [Nat.le_antisymm (Nat.le_trans (acts_succ_le p s0.time j) (Nat.not_le.mp hfin)) hj] at i1 i2
      exact iter_working_done h p _ (i1.trans ((occState_eq_working_iff n).mpr hn1)) (i2 ▸ hn.rem_done)

/-- `hK`, `hK'`: iteration `K + 1` is the one in which the `n`-th active step happens -/
theorem run_occ {K : Nat} (hK : acts p s0.time K < n) (hK' : acts p s0.time (K + 1) = n) {j : Nat}
    (hj : 1 ≤ j) :
    (Nat.repeat (iter m p) j s0).live.tstate t =
      (if j ≤ K + 1 then occState (acts p s0.time j) else .finished) ∧
    (Nat.repeat (iter m p) j s0).live.rem t =
      (if j ≤ K + 1 then D - (acts p s0.time j : Rat) * (m.task t).autoRate else 0) := by
  obtain ⟨j, rfl⟩ := Nat.exists_eq_add_one.mpr hj
  by_cases hjK : j ≤ K
  · rw [if_pos (Nat.succ_le_succ hjK), if_pos (Nat.succ_le_succ hjK)]
    exact run_before h p s0 hr hstart hrem hn j ((acts_lt_iff p s0.time hK hK' j).mpr hjK)
  · rw [if_neg fun h => hjK (Nat.le_of_succ_le_succ h), if_neg fun h => hjK (Nat.le_of_succ_le_succ h)]
    exact run_after h p s0 hr hD hstart hrem hn j
      (Nat.not_lt.mp fun hlt => hjK ((acts_lt_iff p s0.time hK hK' j).mp hlt))

end occ

theorem iter_tState (p : Params) (s : St) (ht : t < m.nT) :
    (iter m p s).logs.tState t =
      s.logs.tState t ++ [showT (workingAt p s.time) ((iter m p s).live.tstate t)] :=
  record_tState _ _ _ t ht

theorem repeat_iter_tState (p : Params) (s : St) (ht : t < m.nT) (k : Nat) :
    (Nat.repeat (iter m p) k s).logs.tState t =
      s.logs.tState t ++ (List.range k).map fun j =>
        showT (workingAt p (s.time + j)) ((Nat.repeat (iter m p) (j + 1) s).live.tstate t) := by
  induction k with
  | zero => simp [Nat.repeat]
  | succ k ih =>
    show (iter m p (Nat.repeat (iter m p) k s)).logs.tState t = _
    rw [iter_tState p _ ht, ih, repeat_iter_time, List.range_succ, List.map_append,
      List.append_assoc]
    rfl

/-- before its first active step the task IS still READY, and such a step is a project absence
step; afterwards a WORKING task is displayed READY on an absence step -/
theorem showT_occState (p : Params) (τ j : Nat) :
    showT (workingAt p (τ + j)) (occState (acts p τ (j + 1))) =
      if workingAt p (τ + j) = true then .working else .ready := by
  unfold occState
  cases hw : workingAt p (τ + j)
  · split <;> rfl
  · -- a working step is active
    have hact := activeAt_of_working (workingAt_true_iff.1 hw)
    rw [if_neg fun hz => ((acts_succ_eq_zero_iff p τ j).mp hz).2 hact]; rfl

theorem count_shownWorking (p : Params) (τ k : Nat) (hf : p.autoFlag = false) :
    ((List.range k).map fun j =>
      if workingAt p (τ + j) = true then TS.working else TS.ready).count .working = acts p τ k := by
  induction k with
  | zero => rfl
  | succ k ih =>
    rw [List.range_succ, List.map_append, List.count_append, ih, acts_succ]
    congr 1
    simp only [activeAt, workingAt, hf, Bool.or_false, List.map_cons, List.map_nil]
    by_cases hc : τ + k ∈ p.absence <;> simp [hc]

/-! Nothing in the library rests on what follows; the names are end results of the development and
stay. -/

theorem acts_le (p : Params) (τ k : Nat) : acts p τ k ≤ k := by
  induction k with
  | zero => exact Nat.le_refl _
  | succ k ih => exact Nat.le_trans (acts_succ_le p τ k) (Nat.succ_le_succ ih)

theorem exists_nth (p : Params) (τ n : Nat) (hn : 0 < n) :
    ∃ K, acts p τ K < n ∧ acts p τ (K + 1) = n :=
  let ⟨K, _, h⟩ := exists_nth_lt p τ n hn
  ⟨K, h⟩

theorem stepsBelow_length_le (n : Nat) (xs : List Nat) : (stepsBelow n xs).length ≤ n :=
  Edit.length_stepsBelow_le n xs

end Auto
end PDesy
