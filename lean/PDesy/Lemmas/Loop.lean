/-
  PDesy.Lemmas.Loop — the simulation loop.  What `__update`, a step and the entry of a run do to
  the clock, the logs, the verdict and the mode.  An iteration of `loop`, `trace` and `updTrace` exits
  or takes a step (`fuel_induct`); what holds along every run for that reason: invariants
  (`LoopInv`), relations between earlier and later states, quantities folded over the recorded
  states (`loop_fold`; the clock: `loop_time`, `trace_time`); and the loop with the fuel `simulate`
  gives it (`Idem.run`, in the namespace of the file that reasons with it most), whose induction
  principle needs no fuel.
-/
import PDesy.Lemmas.Defs
import PDesy.Lemmas.ListFacts

namespace PDesy

theorem simulate_eq (m : Model) (p : Params) (s : St) :
    simulate m p s = loop m p (fuelOf p (enter m p s)) (enter m p s) := rfl

-- `unfold` before `rfl`, here and below: see the header of Lemmas/Frame

@[simp] theorem stepBody_time (m : Model) (p : Params) (s : St) : (stepBody m p s).time = s.time + 1 := by
  unfold stepBody; rfl

theorem updated_live (m : Model) (s : St) : (updated m s).live = update m s.time s.live := by
  unfold updated; rfl

theorem updated_status (m : Model) (x : Status) (s : St) :
    updated m { s with status := x } = { updated m s with status := x } := by unfold updated; rfl

theorem stepBody_status (m : Model) (p : Params) (x : Status) (s : St) :
    stepBody m p { s with status := x } = { stepBody m p s with status := x } := by
  unfold stepBody; rfl

theorem updated_mode (m : Model) (x : Mode) (s : St) :
    updated m { s with mode := x } = { updated m s with mode := x } := by unfold updated; rfl

theorem stepBody_mode (m : Model) (p : Params) (x : Mode) (s : St) :
    stepBody m p { s with mode := x } = { stepBody m p s with mode := x } := by
  unfold stepBody; rfl

namespace Logs
variable {m : Model} {p : Params}

@[simp] theorem updated_logs (s : St) : (updated m s).logs = s.logs := by unfold updated; rfl
@[simp] theorem updated_time (s : St) : (updated m s).time = s.time := by unfold updated; rfl

theorem initProject_logs (stateInfo logInfo : Bool) (s : St) :
    (initProject m stateInfo logInfo s).logs = if logInfo then Logs.empty else s.logs := by
  cases stateInfo <;> cases logInfo <;> rfl

theorem initProject_time (stateInfo logInfo : Bool) (s : St) :
    (initProject m stateInfo logInfo s).time = if logInfo then 0 else s.time := by
  cases stateInfo <;> cases logInfo <;> rfl

theorem enter_time (s : St) (h : p.initLog = true) : (enter m p s).time = 0 :=
  (initProject_time p.initState p.initLog s).trans (if_pos h)

theorem enter_logs (s : St) (h : p.initLog = true) : (enter m p s).logs = clearLogs m s.logs :=
  (initProject_logs p.initState p.initLog s).trans (if_pos h)

end Logs

theorem workingAt_true_iff {p : Params} {k : Nat} :
    workingAt p k = true ↔ p.absence.contains k = false := by
  unfold workingAt; cases p.absence.contains k <;> decide

theorem workingAt_false_iff {p : Params} {k : Nat} :
    workingAt p k = false ↔ p.absence.contains k = true := by
  unfold workingAt; cases p.absence.contains k <;> decide

theorem allFinished_iff {m : Model} {l : Live} :
    allFinished m l = true ↔ ∀ t, t < m.nT → l.tstate t = .finished := by
  simp only [allFinished, List.all_eq_true, List.mem_range, beq_iff_eq]

theorem not_allFinished {m : Model} {l : Live} (h : allFinished m l = false) :
    ∃ t, t < m.nT ∧ l.tstate t ≠ .finished := by
  obtain ⟨t, ht, h⟩ := List.all_eq_false.mp h
  exact ⟨t, List.mem_range.mp ht, by simpa using h⟩

theorem done_false {m : Model} {p : Params} {s : St} (h : done m p s = false) :
    allFinished m s.live = false ∧ s.time < p.maxTime := by
  simpa [done] using h

section unfold
variable {m : Model} {p : Params} {s : St}

theorem trace_succ_done (fuel : Nat) (h : done m p (updated m s) = true) :
    trace m p (fuel + 1) s = [] := by
  simp only [trace, h, if_true]

theorem trace_succ_step (fuel : Nat) (h : done m p (updated m s) = false) :
    trace m p (fuel + 1) s =
      stepBody m p (updated m s) :: trace m p fuel (stepBody m p (updated m s)) := by
  simp only [trace, h, Bool.false_eq_true, if_false]

theorem updTrace_succ_done (fuel : Nat) (h : done m p (updated m s) = true) :
    updTrace m p (fuel + 1) s = [updated m s] := by
  simp only [updTrace, h, if_true]

theorem updTrace_succ_step (fuel : Nat) (h : done m p (updated m s) = false) :
    updTrace m p (fuel + 1) s =
      updated m s :: updTrace m p fuel (stepBody m p (updated m s)) := by
  simp only [updTrace, h, Bool.false_eq_true, if_false]

theorem loop_succ (m : Model) (p : Params) (fuel : Nat) (s : St) :
    loop m p (fuel + 1) s =
      if allFinished m (updated m s).live then { updated m s with status := .success }
      else if s.time ≥ p.maxTime then { updated m s with status := .failure }
      else loop m p fuel (stepBody m p (updated m s)) := rfl

theorem loop_succ_done (fuel : Nat) (h : done m p (updated m s) = true) :
    loop m p (fuel + 1) s =
      { updated m s with
        status := if allFinished m (updated m s).live then .success else .failure } := by
  rw [loop_succ]
  cases hf : allFinished m (updated m s).live
  · have ht : s.time ≥ p.maxTime := by simpa [done, hf] using h
    rw [if_neg Bool.false_ne_true, if_pos ht]; rfl
  · rfl

theorem loop_succ_step (fuel : Nat) (h : done m p (updated m s) = false) :
    loop m p (fuel + 1) s = loop m p fuel (stepBody m p (updated m s)) := by
  obtain ⟨h1, h2⟩ := done_false h
  rw [Logs.updated_time] at h2
  rw [loop_succ, if_neg (by rw [h1]; exact Bool.false_ne_true), if_neg (Nat.not_le.mpr h2)]

end unfold

/-- Induction on the fuel for a statement about `loop`, `trace` or `updTrace`: with fuel left, the
iteration exits (`…_succ_done`) or takes a step (`…_succ_step`). -/
theorem fuel_induct (m : Model) (p : Params) {motive : Nat → St → Prop} (zero : ∀ s, motive 0 s)
    (exit : ∀ n s, done m p (updated m s) = true → motive (n + 1) s)
    (step : ∀ n s, done m p (updated m s) = false → motive n (stepBody m p (updated m s)) →
      motive (n + 1) s) (fuel : Nat) (s : St) : motive fuel s := by
  induction fuel generalizing s with
  | zero => exact zero s
  | succ n ih =>
    cases hd : done m p (updated m s) with
    | true => exact exit n s hd
    | false => exact step n s hd (ih _)

/-- `Inv` is kept by `__update`, by a step taken from a state at which the loop does not exit, and
by the verdict: it holds at every state of every run that starts in it. -/
structure LoopInv (m : Model) (p : Params) (Inv : St → Prop) : Prop where
  upd : ∀ s, Inv s → Inv (updated m s)
  step : ∀ s, Inv s → done m p s = false → Inv (stepBody m p s)
  status : ∀ s st, Inv s → Inv { s with status := st }

namespace LoopInv
variable {m : Model} {p : Params} {Inv : St → Prop}

theorem of_live {I : Live → Prop} (hupd : ∀ time l, I l → I (update m time l))
    (hstep : ∀ s, I s.live → I (stepBody m p s).live) : LoopInv m p (fun s => I s.live) :=
  ⟨fun s => hupd s.time s.live, fun s h _ => hstep s h, fun _ _ h => h⟩

theorem of_true : LoopInv m p fun _ => True :=
  ⟨fun _ _ => trivial, fun _ _ _ => trivial, fun _ _ _ => trivial⟩

theorem trace_mem (h : LoopInv m p Inv) {s : St} (hs : Inv s) (fuel : Nat) :
    ∀ s' ∈ trace m p fuel s, ∃ s0, Inv (updated m s0) ∧ done m p (updated m s0) = false ∧
      s' = stepBody m p (updated m s0) := by
  induction fuel, s using fuel_induct m p with
  | zero s => intro s' h'; cases h'
  | exit n s hd => rw [trace_succ_done n hd]; intro s' h'; cases h'
  | step n s hd ih =>
    rw [trace_succ_step n hd]
    intro s' h'
    rcases List.mem_cons.mp h' with e | h'
    · exact ⟨s, h.upd _ hs, hd, e⟩
    · exact ih (h.step _ (h.upd _ hs) hd) s' h'

theorem updTrace_mem (h : LoopInv m p Inv) {s : St} (hs : Inv s) (fuel : Nat) :
    ∀ s' ∈ updTrace m p fuel s, ∃ s0, Inv s0 ∧ s' = updated m s0 := by
  induction fuel, s using fuel_induct m p with
  | zero s => intro s' h'; cases h'
  | exit n s hd =>
    rw [updTrace_succ_done n hd]
    exact fun s' h' => ⟨s, hs, List.mem_singleton.mp h'⟩
  | step n s hd ih =>
    rw [updTrace_succ_step n hd]
    intro s' h'
    rcases List.mem_cons.mp h' with e | h'
    · exact ⟨s, hs, e⟩
    · exact ih (h.step _ (h.upd _ hs) hd) s' h'

theorem trace_work (h : LoopInv m p Inv) {s : St} (hs : Inv s) (fuel : Nat) :
    ∀ s' ∈ trace m p fuel s, workingAt p (s'.time - 1) = true →
      ∃ s0, Inv (updated m s0) ∧ p.absence.contains (updated m s0).time = false ∧
        s' = stepBody m p (updated m s0) := by
  intro s' hs' hwk
  obtain ⟨s0, hinv, _, rfl⟩ := h.trace_mem hs fuel s' hs'
  rw [show (stepBody m p (updated m s0)).time - 1 = (updated m s0).time from
    Nat.add_sub_cancel _ 1] at hwk
  exact ⟨s0, hinv, workingAt_true_iff.mp hwk, rfl⟩

-- From here to the end of the namespace `loop`, `trace` and `updTrace` are the theorems below;
-- the model's functions are `PDesy.loop`, `PDesy.trace`, `PDesy.updTrace`.

theorem loop (h : LoopInv m p Inv) {s : St} (hs : Inv s) (fuel : Nat) : Inv (loop m p fuel s) := by
  induction fuel, s using fuel_induct m p with
  | zero s => exact hs
  | exit n s hd => rw [loop_succ_done n hd]; exact h.status _ _ (h.upd _ hs)
  | step n s hd ih => rw [loop_succ_step n hd]; exact ih (h.step _ (h.upd _ hs) hd)

theorem trace (h : LoopInv m p Inv) {s : St} (hs : Inv s) (fuel : Nat) :
    ∀ s' ∈ trace m p fuel s, Inv s' := fun s' hs' => by
  obtain ⟨s0, h0, hd, rfl⟩ := h.trace_mem hs fuel s' hs'
  exact h.step _ h0 hd

theorem updTrace (h : LoopInv m p Inv) {s : St} (hs : Inv s) (fuel : Nat) :
    ∀ s' ∈ updTrace m p fuel s, Inv s' := fun s' hs' => by
  obtain ⟨s0, h0, rfl⟩ := h.updTrace_mem hs fuel s' hs'
  exact h.upd _ h0

theorem run (h : LoopInv m p Inv) {s : St} (hs : Inv (enter m p s)) :
    (∀ s' ∈ runTrace m p s, Inv s') ∧ (∀ s' ∈ runUpdTrace m p s, Inv s') ∧ Inv (simulate m p s) :=
  ⟨h.trace hs _, h.updTrace hs _, h.loop hs _⟩

theorem trace_pairwise (h : LoopInv m p Inv) (R : St → St → Prop)
    (htrans : ∀ a b c, R a b → R b c → R a c) (hupd : ∀ s, Inv s → R s (updated m s))
    (hstep : ∀ s, Inv s → done m p s = false → R s (stepBody m p s))
    {s : St} (hs : Inv s) (fuel : Nat) : List.Pairwise R (s :: PDesy.trace m p fuel s) := by
  induction fuel, s using fuel_induct m p with
  | zero s => exact List.pairwise_singleton R s
  | exit n s hd => rw [trace_succ_done n hd]; exact List.pairwise_singleton R s
  | step n s hd ih =>
    rw [trace_succ_step n hd]
    have hi1 := h.upd s hs
    have hi2 := h.step _ hi1 hd
    have hr : R s (stepBody m p (updated m s)) := htrans _ _ _ (hupd s hs) (hstep _ hi1 hd)
    refine List.pairwise_cons.mpr ⟨fun b hb => ?_, ih hi2⟩
    rcases List.mem_cons.mp hb with hb | hb
    · rw [hb]; exact hr
    · exact htrans _ _ _ hr ((List.pairwise_cons.mp (ih hi2)).1 b hb)

theorem loop_rel (h : LoopInv m p Inv) (R : St → St → Prop) (hrefl : ∀ a, R a a)
    (htrans : ∀ a b c, R a b → R b c → R a c) (hupd : ∀ s, Inv s → R s (updated m s))
    (hstep : ∀ s, Inv s → done m p s = false → R s (stepBody m p s))
    (hstatus : ∀ s st, R s { s with status := st })
    {s : St} (hs : Inv s) (fuel : Nat) : R s (PDesy.loop m p fuel s) :=
  -- `Inv x ∧ R s x` is an invariant in `x`
  ((LoopInv.mk (m := m) (p := p) (Inv := fun x => Inv x ∧ R s x)
    (fun x hx => ⟨h.upd x hx.1, htrans _ _ _ hx.2 (hupd x hx.1)⟩)
    (fun x hx hd => ⟨h.step x hx.1 hd, htrans _ _ _ hx.2 (hstep x hx.1 hd)⟩)
    (fun x st hx => ⟨h.status x st hx.1, htrans _ _ _ hx.2 (hstatus x st)⟩)).loop
    ⟨hs, hrefl s⟩ fuel).2

end LoopInv

theorem time_ge_loopInv (m : Model) (p : Params) (k : Nat) : LoopInv m p (fun s => k ≤ s.time) :=
  ⟨fun s h => by rw [Logs.updated_time]; exact h,
    fun s h _ => by rw [stepBody_time]; exact Nat.le_succ_of_le h, fun _ _ h => h⟩

theorem time_le_loopInv (m : Model) (p : Params) : LoopInv m p (fun s => s.time ≤ p.maxTime) :=
  ⟨fun s h => by rw [Logs.updated_time]; exact h,
    fun s _ hd => by rw [stepBody_time]; exact (done_false hd).2, fun _ _ h => h⟩

theorem trace_mem_stepBody (m : Model) (p : Params) (fuel : Nat) (s : St) :
    ∀ s' ∈ trace m p fuel s, ∃ s1, s' = stepBody m p s1 := fun s' h =>
  have ⟨_, _, _, e⟩ := LoopInv.of_true.trace_mem trivial fuel s' h
  ⟨_, e⟩

theorem updTrace_mem_updated (m : Model) (p : Params) (fuel : Nat) (s : St) :
    ∀ s' ∈ updTrace m p fuel s, ∃ s1, s' = updated m s1 := fun s' h =>
  have ⟨s0, _, e⟩ := LoopInv.of_true.updTrace_mem trivial fuel s' h
  ⟨s0, e⟩

theorem loop_frame (m : Model) (p : Params) (fuel : Nat) (s : St) :
    loop m p fuel s =
      { s with live := (loop m p fuel s).live, logs := (loop m p fuel s).logs,
               time := (loop m p fuel s).time, status := (loop m p fuel s).status } := by
  obtain ⟨h1, h2, h3⟩ := (LoopInv.mk (m := m) (p := p)
    (Inv := fun x => x.mode = s.mode ∧ x.absence = s.absence ∧ x.autoFlag = s.autoFlag)
    (fun _ h => h) (fun _ h _ => h) (fun _ _ h => h)).loop ⟨rfl, rfl, rfl⟩ fuel
  rw [← h1, ← h2, ← h3]

theorem simulate_absence (m : Model) (p : Params) (s : St) : (simulate m p s).absence = p.absence := by
  rw [simulate_eq, loop_frame]; rfl

theorem loop_fold {α : Type} (m : Model) (p : Params) (φ : St → α) (g : α → St → α)
    (hupd : ∀ s, φ (updated m s) = φ s) (hstatus : ∀ s st, φ { s with status := st } = φ s)
    (hstep : ∀ s, φ (stepBody m p s) = g (φ s) (stepBody m p s)) (fuel : Nat) (s : St) :
    φ (loop m p fuel s) = (trace m p fuel s).foldl g (φ s) := by
  induction fuel, s using fuel_induct m p with
  | zero s => rfl
  | exit n s hd => rw [loop_succ_done n hd, trace_succ_done n hd, hstatus, hupd]; rfl
  | step n s hd ih => rw [loop_succ_step n hd, trace_succ_step n hd, ih, hstep, hupd]; rfl

theorem loop_time {m : Model} {p : Params} (fuel : Nat) (s : St) :
    (loop m p fuel s).time = s.time + (trace m p fuel s).length := by
  rw [loop_fold m p St.time (fun t _ => t + 1) Logs.updated_time (fun _ _ => rfl) (stepBody_time m p),
    List.foldl_add_const, Nat.one_mul]

theorem trace_zero {m : Model} {p : Params} (fuel : Nat) (s : St)
    (h : 0 < (trace m p fuel s).length) :
    (trace m p fuel s)[0] = stepBody m p (updated m s) := by
  induction fuel, s using fuel_induct m p with
  | zero s => cases h
  | exit n s hd => rw [trace_succ_done n hd] at h; cases h
  | step n s hd _ => simp only [trace_succ_step n hd, List.getElem_cons_zero]

theorem trace_succ {m : Model} {p : Params} (fuel : Nat) (s : St) (k : Nat)
    (h : k + 1 < (trace m p fuel s).length) :
    (trace m p fuel s)[k + 1] =
      stepBody m p (updated m ((trace m p fuel s)[k]'(Nat.lt_of_succ_lt h))) := by
  induction fuel, s using fuel_induct m p generalizing k with
  | zero s => cases h
  | exit n s hd => rw [trace_succ_done n hd] at h; cases h
  | step n s hd ih =>
    simp only [trace_succ_step n hd, List.getElem_cons_succ, List.length_cons] at h ⊢
    cases k with
    | zero => exact trace_zero n _ (Nat.lt_of_succ_lt_succ h)
    | succ k => exact ih k (Nat.lt_of_succ_lt_succ h)

theorem trace_time {m : Model} {p : Params} (fuel : Nat) (s : St) (k : Nat)
    (h : k < (trace m p fuel s).length) : ((trace m p fuel s)[k]).time = s.time + k + 1 := by
  induction k with
  | zero => rw [trace_zero fuel s h, stepBody_time, Logs.updated_time]
  | succ k ih =>
    rw [trace_succ fuel s k h, stepBody_time, Logs.updated_time, ih (Nat.lt_of_succ_lt h)]; rfl

namespace Idem

variable (m : Model) (p : Params)

theorem fuelOf_step (s : St) (h : ¬ s.time ≥ p.maxTime) :
    fuelOf p (stepBody m p (updated m s)) = p.maxTime - s.time := by
  unfold fuelOf
  rw [stepBody_time, Logs.updated_time, Nat.sub_add_eq,
    Nat.sub_add_cancel (Nat.sub_pos_of_lt (Nat.lt_of_not_ge h))]

/-- the loop with exactly the fuel `simulate` gives it -/
def run (s : St) : St := loop m p (fuelOf p s) s

theorem run_step (s : St) :
    run m p s =
      if allFinished m (updated m s).live then { updated m s with status := .success }
      else if s.time ≥ p.maxTime then { updated m s with status := .failure }
      else run m p (stepBody m p (updated m s)) := by
  show loop m p (p.maxTime - s.time + 1) s = _
  rw [loop_succ]
  exact ite3_last fun _ ht => by rw [run, fuelOf_step m p s ht]

/-- induction along a run: a step is taken only before `p.maxTime`, so no fuel is needed -/
theorem run_induct {motive : St → Prop}
    (step : ∀ s, (¬ s.time ≥ p.maxTime → motive (stepBody m p (updated m s))) → motive s) (s : St) :
    motive s := by
  generalize hn : p.maxTime - s.time = n
  induction n generalizing s with
  | zero => exact step s fun h => absurd (Nat.le_of_sub_eq_zero hn) h
  | succ n ih =>
    refine step s fun _ => ih _ ?_
    rw [stepBody_time, Logs.updated_time, Nat.sub_add_eq, hn]
    rfl

theorem loop_eq_run (fuel : Nat) (s : St) (h : fuelOf p s ≤ fuel) : loop m p fuel s = run m p s := by
  induction fuel generalizing s with
  | zero => exact absurd h (Nat.not_succ_le_zero _)
  | succ n ih =>
    rw [loop_succ, run_step]
    refine ite3_last fun _ ht => ih _ ?_
    rw [fuelOf_step m p s ht]
    exact Nat.le_of_succ_le_succ h

theorem run_status (x : Status) (s : St) : run m p { s with status := x } = run m p s := by
  induction s using run_induct m p with
  | step s ih =>
    rw [run_step m p s, run_step m p { s with status := x }, updated_status, stepBody_status]
    dsimp only
    exact ite3_last fun _ ht => ih ht

theorem loop_mode (x : Mode) (fuel : Nat) (s : St) :
    loop m p fuel { s with mode := x } = { loop m p fuel s with mode := x } := by
  have hx (u : St) : done m p { u with mode := x } = done m p u := rfl
  induction fuel, s using fuel_induct m p with
  | zero s => rfl
  | exit n s hd =>
    rw [loop_succ_done n hd, loop_succ_done n (by rw [updated_mode, hx, hd]), updated_mode]
  | step n s hd ih =>
    rw [loop_succ_step n hd, loop_succ_step n (by rw [updated_mode, hx, hd]), updated_mode,
      stepBody_mode, ih]

/-- what the loop reads of `Params` -/
theorem loop_params (q : Params) (h1 : q.rule = p.rule) (h2 : q.absence = p.absence)
    (h3 : q.autoFlag = p.autoFlag) (h4 : q.maxTime = p.maxTime) :
    ∀ (fuel : Nat) (s : St), loop m q fuel s = loop m p fuel s := by
  have hs : ∀ s, stepBody m q s = stepBody m p s := by
    intro s; simp only [stepBody, h1, h2, h3]
  intro fuel
  induction fuel with
  | zero => intro s; rfl
  | succ n ih =>
    intro s
    rw [loop_succ, loop_succ, h4, hs, ih]

theorem run_updated (s : St) (h : updated m (updated m s) = updated m s) :
    run m p (updated m s) = run m p s := by
  rw [run_step m p (updated m s), run_step m p s, h]
  rfl

theorem run_verdict (s : St) :
    ((run m p s).status = .success ↔ allFinished m (run m p s).live = true) ∧
    ((run m p s).status = .failure → (run m p s).time ≥ p.maxTime) ∧
    ((run m p s).status = .success ∨ (run m p s).status = .failure) := by
  induction s using run_induct m p with
  | step s ih =>
    rw [run_step]
    by_cases hf : allFinished m (updated m s).live = true
    · rw [if_pos hf]
      exact ⟨⟨fun _ => hf, fun _ => rfl⟩, fun hs => (nomatch hs), Or.inl rfl⟩
    · rw [if_neg hf]
      by_cases ht : s.time ≥ p.maxTime
      · rw [if_pos ht]
        exact ⟨⟨fun hs => (nomatch hs), fun ha => absurd ha hf⟩, fun _ => ht, Or.inr rfl⟩
      · rw [if_neg ht]; exact ih ht

theorem run_failure (s : St) (h : allFinished m (run m p s).live = false) :
    (run m p s).status ≠ .success ∧ (run m p s).status = .failure := by
  obtain ⟨h1, _, h3⟩ := run_verdict m p s
  have hns : (run m p s).status ≠ .success := fun hs => by rw [h1.mp hs] at h; cases h
  exact ⟨hns, h3.resolve_left hns⟩

end Idem
end PDesy
