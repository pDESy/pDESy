/-
  PDesy.Lemmas.Place — `PlaceInv` is the property (placement two-way consistent, hence at most one
  workplace per component; capacity respected; facilities used on site), `Inv` strengthens it by
  what is needed to carry it through the phases, `PlaceWF` is what is asked of the static model
  (C13).  The movement rules of one allocation pass are an invariant of its four actions
  (`MoveInv`), read against a ghost list of the moves (`passMoves`).
-/
import PDesy.Lemmas.Lifecycle

namespace PDesy
namespace Place

open Lifecycle Finish

/-- Well-formedness of the static model, as far as placement is concerned. -/
structure PlaceWF (m : Model) : Prop where
  /-- the product is flat: no component has a parent or a child -/
  flat : ∀ c, c < m.nC → (m.comp c).parents = [] ∧ (m.comp c).children = []
  size_nonneg : ∀ c, c < m.nC → 0 ≤ (m.comp c).size
  cap_nonneg : ∀ q, q < m.nWp → 0 ≤ (m.wp q).cap
  comp_lt : ∀ t, t < m.nT → ∀ c, (m.task t).comp = some c → c < m.nC
  /-- the link task → component is consistent with the component's task list -/
  comp_tasks : ∀ t, t < m.nT → ∀ c, (m.task t).comp = some c → t ∈ (m.comp c).tasks
  fac_wp : ∀ q, q < m.nWp → ∀ f ∈ (m.wp q).facs, (m.fac f).wp = q

/-- The placement property on a live state. -/
structure PlaceInv (m : Model) (l : Live) : Prop where
  /-- a workplace lists a component exactly when the component reports being placed there -/
  two : ∀ c, c < m.nC → ∀ q, q < m.nWp → (c ∈ l.wpComps q ↔ l.placed c = some q)
  placed_lt : ∀ c, c < m.nC → ∀ q, l.placed c = some q → q < m.nWp
  nodup : ∀ q, q < m.nWp → (l.wpComps q).Nodup
  mem_lt : ∀ q, q < m.nWp → ∀ c ∈ l.wpComps q, c < m.nC
  /-- the space taken by the components placed at a workplace is within its capacity -/
  cap : ∀ q, q < m.nWp →
    sumList ((l.wpComps q).map fun c => (m.comp c).size) ≤ (m.wp q).cap
  /-- a facility held by a task belongs to (and is listed by) the workplace where the task's
  component is placed -/
  site : ∀ t, t < m.nT → ∀ f ∈ l.allocF t,
    ∃ c, (m.task t).comp = some c ∧ l.placed c = some (m.fac f).wp ∧
      f ∈ (m.wp (m.fac f).wp).facs

/-- The invariant carried through the loop: `PlaceInv` and three facts about held facilities. -/
structure Inv (m : Model) (l : Live) : Prop extends PlaceInv m l where
  fin_noF : ∀ t, t < m.nT → l.tstate t = .finished → l.allocF t = []
  nf_noF : ∀ t, t < m.nT → (m.task t).needFac = false → l.allocF t = []
  /-- facilities are given in pairs with a worker -/
  link : ∀ t, t < m.nT → l.allocF t ≠ [] → l.allocW t ≠ []

theorem PlaceInv.unique {m : Model} {l : Live} (h : PlaceInv m l) {c q1 q2 : Nat}
    (hc : c < m.nC) (h1 : q1 < m.nWp) (h2 : q2 < m.nWp)
    (m1 : c ∈ l.wpComps q1) (m2 : c ∈ l.wpComps q2) : q1 = q2 := by
  have e1 := (h.two c hc q1 h1).mp m1
  have e2 := (h.two c hc q2 h2).mp m2
  rw [e1] at e2; exact Option.some.inj e2

theorem sumList_map_erase (g : Nat → Rat) {c : Nat} {xs : List Nat} (h : c ∈ xs) :
    sumList (xs.map g) = g c + sumList ((xs.erase c).map g) :=
  sumList_perm ((List.perm_cons_erase h).map g)

theorem sumList_map_erase_le (g : Nat → Rat) (c : Nat) (xs : List Nat) (hg : 0 ≤ g c) :
    sumList ((xs.erase c).map g) ≤ sumList (xs.map g) := by
  by_cases h : c ∈ xs
  · rw [sumList_map_erase g h, Rat.add_comm]; exact le_add_of_nonneg Rat.le_refl hg
  · rw [List.erase_of_not_mem h]; exact Rat.le_refl

theorem sumList_map_erase_append (g : Nat → Rat) (c : Nat) (xs : List Nat) :
    sumList (((xs.erase c) ++ [c]).map g) =
      if c ∈ xs then sumList (xs.map g) else sumList (xs.map g) + g c := by
  rw [List.map_append, sumList_append]
  show _ + (g c + 0) = _
  split
  · rename_i h; rw [sumList_map_erase g h, Rat.add_zero, Rat.add_comm]
  · rename_i h; rw [List.erase_of_not_mem h, Rat.add_zero]

/-! ### the invariant by groups of clauses

`Inv` has five clauses about the placement alone (`two`, `placed_lt`, `nodup`, `mem_lt`, `cap`) and
four about what one task holds (`site`, `fin_noF`, `nf_noF`, `link`; `TaskOk`).  A step either
leaves the placement alone and changes what one task holds (`Inv.upd_task`: `finishOne`, `giveW`,
`giveF`), or takes one component from where it is and puts it somewhere or nowhere
(`Inv.replace`: `removeOne`, `moveComp`), or writes none of the fields read (`Inv.congr`). -/

/-- the clauses of `Inv` about task `t` in state `s` holding workers `ws` and facilities `fs`,
given where the components are -/
structure TaskOk (m : Model) (placed : Nat → Option Nat) (t : Nat) (s : TS) (ws fs : List Nat) :
    Prop where
  site : ∀ f ∈ fs, ∃ c, (m.task t).comp = some c ∧ placed c = some (m.fac f).wp ∧
    f ∈ (m.wp (m.fac f).wp).facs
  fin_noF : s = .finished → fs = []
  nf_noF : (m.task t).needFac = false → fs = []
  link : fs ≠ [] → ws ≠ []

theorem TaskOk.nil {m : Model} {placed : Nat → Option Nat} {t : Nat} {s : TS} {ws : List Nat} :
    TaskOk m placed t s ws [] :=
  ⟨fun _ hf => (nomatch hf), fun _ => rfl, fun _ => rfl, fun h => absurd rfl h⟩

theorem Inv.task {m : Model} {l : Live} (h : Inv m l) {t : Nat} (ht : t < m.nT) :
    TaskOk m l.placed t (l.tstate t) (l.allocW t) (l.allocF t) :=
  ⟨h.site t ht, h.fin_noF t ht, h.nf_noF t ht, h.link t ht⟩

theorem Inv.of_tasks {m : Model} {l l' : Live} (h : Inv m l)
    (e1 : l'.placed = l.placed) (e2 : l'.wpComps = l.wpComps)
    (key : ∀ t, t < m.nT → TaskOk m l.placed t (l'.tstate t) (l'.allocW t) (l'.allocF t)) :
    Inv m l' := by
  refine ⟨⟨?_, ?_, ?_, ?_, ?_, ?_⟩, ?_, ?_, ?_⟩
  · rw [e1, e2]; exact h.two
  · rw [e1]; exact h.placed_lt
  · rw [e2]; exact h.nodup
  · rw [e2]; exact h.mem_lt
  · rw [e2]; exact h.cap
  · rw [e1]; exact fun t ht => (key t ht).site
  · exact fun t ht => (key t ht).fin_noF
  · exact fun t ht => (key t ht).nf_noF
  · exact fun t ht => (key t ht).link

theorem Inv.congr {m : Model} {l l' : Live} (h : Inv m l) (e1 : l'.placed = l.placed)
    (e2 : l'.wpComps = l.wpComps) (e3 : l'.allocF = l.allocF) (e4 : l'.allocW = l.allocW)
    (ht : ∀ t, l'.tstate t = .finished → l.tstate t = .finished) : Inv m l' :=
  h.of_tasks e1 e2 fun t ht' => by
    rw [e3, e4]; exact { h.task ht' with fin_noF := fun hf => h.fin_noF t ht' (ht t hf) }

theorem Inv.upd_task {m : Model} {l l' : Live} (h : Inv m l) (t : Nat)
    (e1 : l'.placed = l.placed) (e2 : l'.wpComps = l.wpComps)
    (hother : ∀ t', t' ≠ t → l'.allocW t' = l.allocW t' ∧ l'.allocF t' = l.allocF t' ∧
      (l'.tstate t' = .finished → l.tstate t' = .finished))
    (hat : t < m.nT → TaskOk m l.placed t (l'.tstate t) (l'.allocW t) (l'.allocF t)) :
    Inv m l' :=
  h.of_tasks e1 e2 fun t' ht' => by
    by_cases e : t' = t
    · exact e ▸ hat (e ▸ ht')
    · obtain ⟨eW, eF, eT⟩ := hother t' e
      rw [eW, eF]
      exact { h.task ht' with fin_noF := fun hf => h.fin_noF t' ht' (eT hf) }

/-- `v` is where `c` is put (`none`: nowhere).  The room there is measured before `c` leaves its
old place, as `placeOk` measures it. -/
theorem Inv.replace {m : Model} (wf : PlaceWF m) {l l' : Live} (h : Inv m l) {c : Nat}
    (hc : c < m.nC) {v : Option Nat}
    (hv : ∀ p, v = some p → p < m.nWp ∧ (m.comp c).size ≤ availSpace m l p)
    (hnoF : ∀ t, t < m.nT → (m.task t).comp = some c → l.allocF t = [])
    (eP : l'.placed = upd l.placed c v)
    (eC : ∀ q, q < m.nWp → l'.wpComps q =
      if v = some q then (l.wpComps q).erase c ++ [c] else (l.wpComps q).erase c)
    (eF : l'.allocF = l.allocF) (eW : l'.allocW = l.allocW) (eT : l'.tstate = l.tstate) :
    Inv m l' := by
  refine ⟨⟨?_, ?_, ?_, ?_, ?_, ?_⟩, ?_, ?_, ?_⟩
  · intro c' hc' q hq
    rw [eC q hq, eP, upd_apply]
    by_cases e1 : c' = c
    · rw [e1, if_pos rfl]
      by_cases e2 : v = some q
      · rw [if_pos e2]; simp [e2]
      · rw [if_neg e2]; exact iff_of_false (h.nodup q hq).not_mem_erase e2
    · have hm : c' ∈ (l.wpComps q).erase c ↔ l.placed c' = some q :=
        (List.mem_erase_of_ne e1).trans (h.two c' hc' q hq)
      rw [if_neg e1]
      split
      · rw [List.mem_append, List.mem_singleton, or_iff_left e1]; exact hm
      · exact hm
  · intro c' _ q hq
    rw [eP, upd_apply] at hq
    split at hq
    · exact (hv q hq).1
    · exact h.placed_lt c' ‹_› q hq
  · intro q hq
    rw [eC q hq]
    split
    · exact (List.perm_append_singleton c _).nodup_iff.mpr
        (List.nodup_cons.mpr ⟨(h.nodup q hq).not_mem_erase, (h.nodup q hq).erase c⟩)
    · exact (h.nodup q hq).erase c
  · intro q hq c' hc'
    rw [eC q hq] at hc'
    split at hc'
    · rcases List.mem_append.mp hc' with hm | hm
      · exact h.mem_lt q hq c' (List.mem_of_mem_erase hm)
      · rw [List.mem_singleton.mp hm]; exact hc
    · exact h.mem_lt q hq c' (List.mem_of_mem_erase hc')
  · intro q hq
    rw [eC q hq]
    split
    · rename_i e
      rw [sumList_map_erase_append (fun c => (m.comp c).size) c (l.wpComps q)]
      split
      · exact h.cap q hq
      · rw [Rat.add_comm]; exact Rat.le_sub_iff.mp (hv q e).2
    · exact Rat.le_trans
        (sumList_map_erase_le (fun c => (m.comp c).size) c _ (wf.size_nonneg c hc)) (h.cap q hq)
  · intro t ht f hf
    rw [eF] at hf
    obtain ⟨c', hc1, hc2, hc3⟩ := h.site t ht f hf
    refine ⟨c', hc1, ?_, hc3⟩
    rw [eP, upd_other _ _ _ _ fun e => ?_]
    · exact hc2
    · rw [hnoF t ht (e ▸ hc1)] at hf; cases hf
  · rw [eT, eF]; exact h.fin_noF
  · rw [eF]; exact h.nf_noF
  · rw [eF, eW]; exact h.link

/-! ### phases that do not touch placement or allocation -/

variable (m : Model)

theorem Inv_compCheck {l : Live} (h : Inv m l) : Inv m (compCheck m l) := by
  rw [compCheck_eq]; exact h.congr rfl rfl rfl rfl (fun _ ht => ht)

theorem Inv_pert (time : Nat) {l : Live} (h : Inv m l) : Inv m (pert m time l) := by
  rw [pert_frame]; exact h.congr rfl rfl rfl rfl (fun _ ht => ht)

theorem Inv_absenceSet (time : Nat) (wk : Bool) {l : Live} (h : Inv m l) :
    Inv m (absenceSet m time wk l) := by
  rw [absenceSet_eq]; exact h.congr rfl rfl rfl rfl (fun _ ht => ht)

theorem Inv_perform (wk a : Bool) {l : Live} (h : Inv m l) : Inv m (perform m wk a l) := by
  rw [perform_eq]; exact h.congr rfl rfl rfl rfl (fun _ ht => ht)

theorem Inv_chkReady {l : Live} (h : Inv m l) : Inv m (chkReady m l) := by
  have ht : ∀ t, (chkReady m l).tstate t = .finished → l.tstate t = .finished :=
    fun t => ((chkReady_NR m l).gates t).1.mp
  rw [chkReady_eq] at ht ⊢; exact h.congr rfl rfl rfl rfl ht

theorem Inv_chkWorking {l : Live} (h : Inv m l) : Inv m (chkWorking m l) := by
  have ht : ∀ t, (chkWorking m l).tstate t = .finished → l.tstate t = .finished :=
    fun t hf => ((chkWorking_start m l).finished_iff t).mp hf
  rw [chkWorking_frame]; exact h.congr rfl rfl rfl rfl ht

/-! ### `check_state(FINISHED)` changes what the finished tasks hold -/

theorem Inv_finishOne {l : Live} (h : Inv m l) (t : Nat) : Inv m (finishOne m l t) := by
  have eF : (finishOne m l t).allocF =
      if (m.task t).needFac then upd l.allocF t [] else l.allocF := by rw [finishOne_eq]
  refine h.upd_task t (by rw [finishOne_eq]) (by rw [finishOne_eq]) (fun t' e => ⟨?_, ?_, ?_⟩)
    fun ht => ?_
  · rw [finishOne_eq]; exact upd_other _ _ _ _ e
  · rw [eF]; split
    · exact upd_other _ _ _ _ e
    · rfl
  · rw [finishOne_eq]; exact fun h => (upd_other _ _ _ _ e).symm.trans h
  · -- `t` itself holds no facility afterwards: the list is emptied, or was empty all along
    have : (finishOne m l t).allocF t = [] := by
      rw [eF]; split
      · exact upd_same _ _ _
      · rename_i hn; exact h.nf_noF t ht (by simpa using hn)
    rw [this]; exact TaskOk.nil

theorem Inv_chkFinished {l : Live} (h : Inv m l) : Inv m (chkFinished m l) :=
  chkFinished_ind (Inv m) (fun _ t _ _ _ _ ha => Inv_finishOne m ha t) l h

/-! ### `check_removing_placed_workplace` puts components nowhere, one at a time -/

/-- under the two-way invariant `removeOne` erases the component from every list -/
theorem removeOne_wpComps {l : Live} (h : PlaceInv m l) {c : Nat} (hc : c < m.nC) (q : Nat)
    (hq : q < m.nWp) : (removeOne l c).wpComps q = (l.wpComps q).erase c := by
  have hnot : l.placed c ≠ some q → (l.wpComps q).erase c = l.wpComps q := fun hne =>
    List.erase_of_not_mem fun hm => hne ((h.two c hc q hq).mp hm)
  unfold removeOne
  cases hpl : l.placed c with
  | none => exact (hnot (by rw [hpl]; simp)).symm
  | some p =>
    show upd l.wpComps p _ q = _
    rw [upd_apply]; split
    · rename_i e; rw [e]
    · rename_i e; exact (hnot (by rw [hpl]; exact fun e' => e (Option.some.inj e').symm)).symm

theorem Inv_removeOne (wf : PlaceWF m) {l : Live} (h : Inv m l) (c : Nat) (hc : c < m.nC)
    (hnoF : ∀ t, t < m.nT → (m.task t).comp = some c → l.allocF t = []) :
    Inv m (removeOne l c) :=
  h.replace wf hc (v := Option.none) (fun _ e => nomatch e) hnoF (removeOne_placed l c)
    (fun q hq => by rw [removeOne_wpComps m h.toPlaceInv hc q hq, if_neg (by simp)])
    (by rw [removeOne_frame]) (by rw [removeOne_frame]) (by rw [removeOne_frame])

theorem Inv_chkRemove (wf : PlaceWF m) {l : Live} (h : Inv m l) : Inv m (chkRemove m l) := by
  rw [chkRemove_fold]
  refine (foldl_inv_mem removeOne (fun a => Inv m a ∧ a.tstate = l.tstate) _
    (fun a c hc ⟨ha, e⟩ => ?_) l ⟨h, rfl⟩).1
  obtain ⟨hc1, hc2⟩ := List.mem_filter.mp hc
  simp only [removeCand, Bool.and_eq_true, List.all_eq_true, beq_iff_eq] at hc2
  exact ⟨Inv_removeOne m wf ha c (List.mem_range.mp hc1) fun t ht hcomp =>
      ha.fin_noF t ht (e ▸ hc2.1.2 t (wf.comp_tasks t ht c hcomp)),
    (removeOne_tstate a c).trans e⟩

theorem chkRemove_removed (l : Live) (c : Nat) (hc : c < m.nC)
    (hpar : (m.comp c).parents = [])
    (hfin : ∀ t ∈ (m.comp c).tasks, (chkRemove m l).tstate t = .finished) :
    (chkRemove m l).placed c = Option.none := by
  rw [chkRemove_tstate] at hfin
  rw [chkRemove_placed]
  cases hpl : l.placed c with
  | none => split <;> rfl
  | some p =>
    rw [if_pos]
    refine ⟨hc, ?_⟩
    simp only [removeCand, Bool.and_eq_true, List.all_eq_true, beq_iff_eq]
    exact ⟨⟨by simp [hpar], hfin⟩, by simp [hpl]⟩

theorem update_removed (time : Nat) (l : Live) (c : Nat) (hc : c < m.nC)
    (hpar : (m.comp c).parents = [])
    (hfin : ∀ t ∈ (m.comp c).tasks, (update m time l).tstate t = .finished) :
    (update m time l).placed c = Option.none := by
  have hpl : (update m time l).placed =
      (chkRemove m (compCheck m (chkFinished m l))).placed := rfl
  rw [hpl]
  apply chkRemove_removed m _ c hc hpar
  intro t ht
  rw [chkRemove_tstate, compCheck_tstate]
  exact (update_finished_iff m time l t).mp (hfin t ht)

/-! ### a move puts a ready component where `placeOk` found room -/

theorem isReady_true {l : Live} {c : Nat} (h : isReady m l c = true) :
    ∀ t ∈ (m.comp c).tasks, l.tstate t ≠ .working ∧ l.allocW t = [] := by
  unfold isReady at h
  simp only at h
  split at h
  · cases h
  · simp only [Bool.and_eq_true, Bool.not_eq_true', List.any_eq_false, Bool.or_eq_true,
      beq_iff_eq, decide_eq_true_eq, not_or] at h
    obtain ⟨⟨_, hnone⟩, _⟩ := h
    intro t ht
    obtain ⟨hnw, hlen⟩ := hnone t ht
    exact ⟨hnw, List.eq_nil_of_length_eq_zero (Nat.eq_zero_of_not_pos hlen)⟩

theorem placeOk_true {l : Live} {t c p : Nat} (h : placeOk m l t c p = true) :
    p < m.nWp ∧
    ((m.wp p).inputs ≠ [] →
      l.placed c = Option.none ∨ ∃ q0, l.placed c = some q0 ∧ q0 ∈ (m.wp p).inputs) ∧
    (m.comp c).size ≤ availSpace m l p := by
  unfold placeOk at h
  simp only [Bool.and_eq_true, Bool.or_eq_true, decide_eq_true_eq, List.isEmpty_iff] at h
  obtain ⟨⟨⟨h1, h2⟩, h3⟩, _⟩ := h
  refine ⟨h1, ?_, h3⟩
  intro hne
  rcases h2 with h2 | h2
  · exact absurd h2 hne
  · cases hpl : l.placed c with
    | none => exact Or.inl rfl
    | some q0 =>
      rw [hpl] at h2
      exact Or.inr ⟨q0, rfl, by simpa using h2⟩

theorem moveComp_wpComps {l : Live} (h : PlaceInv m l) {c p : Nat} (hc : c < m.nC)
    (hp : p < m.nWp) (q : Nat) (hq : q < m.nWp) :
    (moveComp l c p).wpComps q =
      if q = p then (l.wpComps p).erase c ++ [c] else (l.wpComps q).erase c := by
  have e : (moveComp l c p).wpComps =
      if ((removeOne l c).wpComps p).contains c then (removeOne l c).wpComps
      else upd (removeOne l c).wpComps p ((removeOne l c).wpComps p ++ [c]) := by
    unfold moveComp removeOne
    cases l.placed c <;> dsimp only <;> split <;> rfl
  have hn : ((removeOne l c).wpComps p).contains c = false := by
    rw [removeOne_wpComps m h hc p hp]; simpa using (h.nodup p hp).not_mem_erase
  rw [e, hn, if_neg Bool.false_ne_true, upd_apply]
  split
  · rw [removeOne_wpComps m h hc p hp]
  · exact removeOne_wpComps m h hc q hq

theorem Inv_move (wf : PlaceWF m) {l : Live} (h : Inv m l) {t c p : Nat} (ht : t < m.nT)
    (hcomp : (m.task t).comp = some c) (hr : isReady m l c = true)
    (hok : placeOk m l t c p = true) : Inv m (moveComp l c p) := by
  have hc := wf.comp_lt t ht c hcomp
  obtain ⟨hp, _, hsp⟩ := placeOk_true m hok
  refine h.replace wf hc (v := some p) (fun _ e => Option.some.inj e ▸ ⟨hp, hsp⟩)
    (fun t' ht' hcomp' => ?_) (moveComp_placed l c p) (fun q hq => ?_)
    (by rw [moveComp_frame]) (by rw [moveComp_frame]) (by rw [moveComp_frame])
  · -- a task that holds a facility holds a worker, which no task of a ready component does
    have hW := (isReady_true m hr t' (wf.comp_tasks t' ht' c hcomp')).2
    exact Classical.byContradiction fun hF => h.link t' ht' hF hW
  · rw [moveComp_wpComps m h.toPlaceInv hc hp q hq]
    by_cases e : q = p
    · rw [if_pos e, if_pos (by rw [e]), e]
    · rw [if_neg e, if_neg fun e' => e (Option.some.inj e').symm]

/-! ### of the live state `placeOk` reads where the component is and the free space of the
workplace -/

theorem availSpace_congr {m : Model} {l l' : Live} {p : Nat} (h : l'.wpComps p = l.wpComps p) :
    availSpace m l' p = availSpace m l p := by
  unfold availSpace; rw [h]

/-- under the placement invariant the free space of a workplace is determined by the placement
map: the workplace lists, each once, the components placed there -/
theorem availSpace_of_placed {m : Model} {l l' : Live} (h : PlaceInv m l)
    (h' : PlaceInv m l') (e : ∀ c, c < m.nC → l'.placed c = l.placed c) {q : Nat}
    (hq : q < m.nWp) : availSpace m l' q = availSpace m l q := by
  unfold availSpace
  have hp : (l'.wpComps q).Perm (l.wpComps q) :=
    (List.perm_ext_iff_of_nodup (h'.nodup q hq) (h.nodup q hq)).mpr fun c =>
      ⟨fun hc => have hlt := h'.mem_lt q hq c hc
        (h.two c hlt q hq).mpr ((e c hlt).symm.trans ((h'.two c hlt q hq).mp hc)),
       fun hc => have hlt := h.mem_lt q hq c hc
        (h'.two c hlt q hq).mpr ((e c hlt).trans ((h.two c hlt q hq).mp hc))⟩
  rw [sumList_perm (hp.map _)]

theorem placeOk_congr {m : Model} {l l' : Live} {t c p : Nat} (h1 : l'.placed c = l.placed c)
    (h2 : p < m.nWp → availSpace m l' p = availSpace m l p) :
    placeOk m l' t c p = placeOk m l t c p := by
  unfold placeOk
  by_cases hp : p < m.nWp
  · rw [h1, h2 hp]
  · simp [hp]

/-! ### giving a worker or a pair changes what one task holds -/

theorem Inv_giveW {l : Live} (h : Inv m l) (t w : Nat) : Inv m (giveW l t w) :=
  h.upd_task t rfl rfl (fun _ e => ⟨upd_other _ _ _ _ e, rfl, id⟩) fun ht =>
    { h.task ht with link := fun _ => by show upd l.allocW t _ t ≠ []; rw [upd_same]; simp }

theorem Inv_giveF (wf : PlaceWF m) {l : Live} (h : Inv m l) (t f c p : Nat)
    (hcomp : (m.task t).comp = some c) (hpl : l.placed c = some p)
    (hf : f ∈ (m.wp p).facs) (hnf : (m.task t).needFac = true)
    (hts : l.tstate t ≠ .finished) (hW : l.allocW t ≠ []) : Inv m (giveF l t f) :=
  h.upd_task t rfl rfl (fun _ e => ⟨rfl, upd_other _ _ _ _ e, id⟩) fun ht =>
    { site := fun f' hf' => by
        have hf'' : f' ∈ upd l.allocF t (l.allocF t ++ [f]) t := hf'
        rw [upd_same] at hf''
        rcases List.mem_append.mp hf'' with h' | h'
        · exact h.site t ht f' h'
        · rw [List.mem_singleton.mp h',
            wf.fac_wp p (h.placed_lt c (wf.comp_lt t ht c hcomp) p hpl) f hf]
          exact ⟨c, hcomp, hpl, hf⟩
      fin_noF := fun hfin => absurd hfin hts
      nf_noF := fun hn => by rw [hnf] at hn; cases hn
      link := fun _ => hW }

/-! ### every action of the pass keeps the invariant -/

theorem Inv.act {m : Model} (wf : PlaceWF m) {a a' : Alloc} {t : Nat} (ht : t < m.nT)
    (h : Inv m a.l) (hact : Act m t a a') : Inv m a'.l := by
  cases hact with
  | perm => exact h
  | move c p hc _ hr _ hok => exact Inv_move m wf h ht hc hr hok
  | worker w => exact Inv_giveW m h t w
  | pair w f c p _ hnf hc hp hf _ _ _ _ _ hcan =>
    have hs := (canAdd_iff.mp hcan).1.state
    exact Inv_giveF m wf (Inv_giveW m h t w) t f c p hc hp hf hnf
      (by rcases hs with e | e <;> simp [giveW, e]) (by simp [giveW])

theorem Inv.reach {m : Model} (wf : PlaceWF m) {T : Nat → Prop} {a b : Alloc}
    (hT : ∀ t, T t → t < m.nT) (hi : Inv m a.l) (h : Reach m T a b) : Inv m b.l :=
  h.inv (P := fun x => Inv m x.l) (fun t _ _ ht hact hb => hb.act wf (hT t ht) hact) hi

theorem Inv_allocate (wf : PlaceWF m) (lg : Logs) (rule : TaskRule) {l : Live} (h : Inv m l) :
    Inv m (allocate m lg rule l) := by
  obtain ⟨b, hr, e⟩ := allocate_reach m lg rule l
  rw [e]
  exact h.reach wf (fun t ht => (NoWait.mem_cands.mp (Sort.mem_sortTasks.mp ht)).1) hr

/-! ### the movement rules are an invariant of the four actions -/

/-- Component `c` has been moved, by a pass started from `l0`, in a way that respects the rules,
and is at `now`: none of its tasks was WORKING, it is at a workplace of the model, and if that
workplace declares input workplaces it came from one of them or from nowhere. -/
def MovedOk (m : Model) (l0 : Live) (c : Nat) (now : Option Nat) : Prop :=
  (∀ t ∈ (m.comp c).tasks, l0.tstate t ≠ .working) ∧
  ∃ q, now = some q ∧ q < m.nWp ∧
    ((m.wp q).inputs ≠ [] →
      l0.placed c = Option.none ∨ ∃ q0, l0.placed c = some q0 ∧ q0 ∈ (m.wp q).inputs)

/-- what an allocation pass started from `l0` has done so far to the placement -/
structure MoveInv (m : Model) (l0 : Live) (acc : Alloc) : Prop where
  ts : acc.l.tstate = l0.tstate
  nodup : acc.moved.Nodup
  same : ∀ c, c ∉ acc.moved → acc.l.placed c = l0.placed c
  ok : ∀ c ∈ acc.moved, MovedOk m l0 c (acc.l.placed c)

theorem MoveInv.act {m : Model} {l0 : Live} {a a' : Alloc} {t : Nat} (h : MoveInv m l0 a)
    (hact : Act m t a a') : MoveInv m l0 a' := by
  cases hact with
  | perm => exact ⟨h.ts, h.nodup, h.same, h.ok⟩
  | worker => unfold giveW; exact ⟨h.ts, h.nodup, h.same, h.ok⟩
  | pair => unfold giveF giveW; exact ⟨h.ts, h.nodup, h.same, h.ok⟩
  | move c p _ hcm hr _ hok =>
    obtain ⟨hp, hconv, _⟩ := placeOk_true m hok
    have eP := moveComp_placed a.l c p
    refine ⟨by rw [moveComp_frame]; exact h.ts, ?_, fun c' hc' => ?_, fun c' hc' => ?_⟩
    · exact (List.perm_append_singleton c _).nodup_iff.mpr (List.nodup_cons.mpr ⟨hcm, h.nodup⟩)
    · simp only [List.mem_append, List.mem_singleton, not_or] at hc'
      rw [eP, upd_other _ _ _ _ hc'.2]; exact h.same c' hc'.1
    · simp only [List.mem_append, List.mem_singleton] at hc'
      rw [eP]
      by_cases e : c' = c
      · subst e
        rw [upd_same]
        exact ⟨fun t' ht' => h.ts ▸ (isReady_true m hr t' ht').1, p, rfl, hp,
          h.same c' hcm ▸ hconv⟩
      · rw [upd_other _ _ _ _ e]; exact h.ok c' (hc'.resolve_right e)

theorem MoveInv.reach {m : Model} {T : Nat → Prop} {l0 : Live} {a b : Alloc}
    (hm : MoveInv m l0 a) (h : Reach m T a b) : MoveInv m l0 b :=
  h.inv (fun _ _ _ _ hact hb => hb.act hact) hm

theorem MoveInv.start (m : Model) (l : Live) (free : List Nat) :
    MoveInv m l { l := l, free := free } :=
  ⟨rfl, List.nodup_nil, fun _ _ => rfl, fun _ hc => nomatch hc⟩

/-- the once-per-pass guard of `allocTask`: the task's component has already moved -/
def skipB (m : Model) (acc : Alloc) (t : Nat) : Bool :=
  match (m.task t).comp with
  | some c => acc.moved.contains c
  | Option.none => false

/-- the components `allocTask m acc t` moves (none or one) -/
def stepMoves (m : Model) (acc : Alloc) (t : Nat) : List Nat :=
  if skipB m acc t then [] else (placeMoves m t acc.l).toList

/-- Ghost function: the components for which a move is executed while the allocation loop runs
over the tasks `ts` from accumulator `acc`, in order.  It mirrors `allocTask`: a move is executed
for task `t` exactly when the task is not skipped and `placeMoves` names a component. -/
def movesOf (m : Model) : Alloc → List Nat → List Nat
  | _, [] => []
  | acc, t :: ts => stepMoves m acc t ++ movesOf m (allocTask m acc t) ts

theorem allocTask_moved (acc : Alloc) (t : Nat) :
    (allocTask m acc t).moved = acc.moved ++ stepMoves m acc t := by
  rw [(allocTask_placing m acc t).2.2]
  show (if skipB m acc t then acc else _).moved = _
  unfold stepMoves
  by_cases hs : skipB m acc t = true
  · rw [if_pos hs, if_pos hs]; simp
  · rw [if_neg hs, if_neg hs]
    cases placeMoves m t acc.l <;> simp

theorem foldl_allocTask_moved (ts : List Nat) (acc : Alloc) :
    (ts.foldl (allocTask m) acc).moved = acc.moved ++ movesOf m acc ts := by
  induction ts generalizing acc with
  | nil => simp [movesOf]
  | cons t ts ih =>
    rw [List.foldl_cons, ih, allocTask_moved, movesOf, List.append_assoc]

/-- the components moved by one `__allocate` pass, in the order in which they were moved -/
def passMoves (m : Model) (lg : Logs) (rule : TaskRule) (l : Live) : List Nat :=
  movesOf m { l := l, free := (List.range m.nW).filter fun w => l.wstate w == .free }
    (sortTasks m l lg rule ((List.range m.nT).filter fun t =>
      l.tstate t == .ready || l.tstate t == .working))

theorem passMoves_eq (lg : Logs) (rule : TaskRule) (l : Live) :
    passMoves m lg rule l =
      ((sortTasks m l lg rule (NoWait.cands m l)).foldl (allocTask m)
        { l := l, free := Elig.freeOf m l }).moved := by
  rw [foldl_allocTask_moved, List.nil_append]
  rfl  -- `passMoves` spells out `Elig.freeOf` and `cands`

theorem allocate_moves (lg : Logs) (rule : TaskRule) (l : Live) :
    (passMoves m lg rule l).Nodup ∧
    (∀ c, (allocate m lg rule l).placed c ≠ l.placed c → c ∈ passMoves m lg rule l) ∧
    (∀ c ∈ passMoves m lg rule l, MovedOk m l c ((allocate m lg rule l).placed c)) := by
  have h1 : MoveInv m l _ := (MoveInv.start m l _).reach (foldl_allocTask_reach m
    (sortTasks m l lg rule (NoWait.cands m l)) (a := { l := l, free := Elig.freeOf m l })
    (Elig.freeOf_nodup m l))
  rw [allocate_fold, passMoves_eq]
  exact ⟨h1.nodup, fun c hne => Decidable.byContradiction fun hc => hne (h1.same c hc), h1.ok⟩

/-- A step changes placements in its allocation pass only, hence on a working step only. -/
theorem stepBody_moves (p : Params) (s : St) (c : Nat)
    (h : (stepBody m p s).live.placed c ≠ s.live.placed c) :
    workingAt p s.time = true ∧
    c ∈ passMoves m s.logs p.rule (absenceSet m s.time true s.live) ∧
    (passMoves m s.logs p.rule (absenceSet m s.time true s.live)).Nodup ∧
    MovedOk m s.live c ((stepBody m p s).live.placed c) := by
  have e : (stepBody m p s).live.placed = (preWorking m p s).placed := by rw [stepBody_frame]
  rw [e] at h ⊢
  cases hw : p.absence.contains s.time with
  | true => rw [preWorking_off m p s hw] at h; exact absurd rfl h
  | false =>
    rw [preWorking_on m p s hw] at h ⊢
    obtain ⟨h1, h2, h3⟩ := allocate_moves m s.logs p.rule (absenceSet m s.time true s.live)
    exact ⟨workingAt_true_iff.2 hw, h2 c h, h1, h3 c (h2 c h)⟩

theorem Inv_update (wf : PlaceWF m) (time : Nat) {l : Live} (h : Inv m l) :
    Inv m (update m time l) := by
  unfold update
  apply Inv_pert
  apply Inv_compCheck
  apply Inv_chkReady
  apply Inv_chkRemove m wf
  apply Inv_compCheck
  exact Inv_chkFinished m h

theorem Inv_preWorking (wf : PlaceWF m) (p : Params) (s : St) (h : Inv m s.live) :
    Inv m (preWorking m p s) := by
  unfold preWorking
  split
  · exact Inv_allocate m wf _ _ (Inv_absenceSet m _ _ h)
  · exact Inv_absenceSet m _ _ h

theorem Inv_stepBody (wf : PlaceWF m) (p : Params) (s : St) (h : Inv m s.live) :
    Inv m (stepBody m p s).live := by
  rw [stepBody_live]
  apply Inv_perform
  apply Inv_compCheck
  cases startGuard p s
  · exact Inv_preWorking m wf p s h
  · apply Inv_chkWorking
    exact Inv_preWorking m wf p s h

theorem Inv_loopInv (wf : PlaceWF m) (p : Params) : LoopInv m p (fun s => Inv m s.live) :=
  .of_live (fun time _ => Inv_update m wf time) (fun s => Inv_stepBody m wf p s)

theorem Inv_enter (wf : PlaceWF m) {p : Params} (hp : p.initState = true) (s : St) :
    Inv m (enter m p s).live := by
  rw [enter_live_init m hp, initProject_cleared]
  refine ⟨⟨?_, ?_, ?_, ?_, ?_, ?_⟩, ?_, ?_, ?_⟩
  · intro c _ q _; simp
  · intro c _ q hq; cases hq
  · exact fun _ _ => List.nodup_nil
  · intro q _ c hc; cases hc
  · exact fun q hq => wf.cap_nonneg q hq
  · intro t _ f hf; cases hf
  · exact fun _ _ _ => rfl
  · exact fun _ _ _ => rfl
  · exact fun _ _ hne => absurd rfl hne

/-! ### `PlaceWF` is decidable (for the `example`s) -/

theorem placeWF_iff (m : Model) : PlaceWF m ↔
    (∀ c, c < m.nC → (m.comp c).parents = [] ∧ (m.comp c).children = []) ∧
    (∀ c, c < m.nC → 0 ≤ (m.comp c).size) ∧ (∀ q, q < m.nWp → 0 ≤ (m.wp q).cap) ∧
    (∀ t, t < m.nT → ∀ c, (m.task t).comp = some c → c < m.nC) ∧
    (∀ t, t < m.nT → ∀ c, (m.task t).comp = some c → t ∈ (m.comp c).tasks) ∧
    (∀ q, q < m.nWp → ∀ f ∈ (m.wp q).facs, (m.fac f).wp = q) :=
  ⟨fun ⟨a, b, c, d, e, f⟩ => ⟨a, b, c, d, e, f⟩, fun ⟨a, b, c, d, e, f⟩ => ⟨a, b, c, d, e, f⟩⟩

instance (m : Model) : Decidable (PlaceWF m) := decidable_of_iff _ (placeWF_iff m).symm

/-! ### a small concrete model for the `example`s of C13 -/

/-- Two workplaces on a conveyor (`1` takes components only from `0`), one facility each, room
for one component each.  Component `0` has task `0` (at workplace 0) then task `1` (at
workplace 1); component `1` has task `2`, which also needs workplace 0 and has to wait until
component 0 has moved on.  Two workers who can do everything. -/
def exP : Model where
  nT := 3
  nW := 2
  nF := 2
  nTeam := 1
  nWp := 2
  nC := 2
  task := fun t =>
    match t with
    | 0 => { name := 0, work := 1, needFac := true, wps := [0], comp := some 0,
             outputs := [(1, .fs)] }
    | 1 => { name := 1, work := 1, needFac := true, wps := [1], comp := some 0,
             inputs := [(0, .fs)] }
    | _ => { name := 2, work := 1, needFac := true, wps := [0], comp := some 1 }
  worker := fun _ =>
    { team := 0, skills := [(0, 1), (1, 1), (2, 1)], facSkills := [(0, 1), (1, 1)] }
  fac := fun f =>
    match f with
    | 0 => { wp := 0, name := 0, skills := [(0, 1), (2, 1)] }
    | _ => { wp := 1, name := 1, skills := [(1, 1)] }
  team := fun _ => { workers := [0, 1], targets := [0, 1, 2] }
  wp := fun q =>
    match q with
    | 0 => { facs := [0], targets := [0, 2], cap := 1, outputs := [1] }
    | _ => { facs := [1], targets := [1], cap := 1, inputs := [0] }
  comp := fun c =>
    match c with
    | 0 => { tasks := [0, 1], size := 1 }
    | _ => { tasks := [2], size := 1 }

theorem exP_wf : PlaceWF exP := by decide +kernel

end Place
end PDesy
