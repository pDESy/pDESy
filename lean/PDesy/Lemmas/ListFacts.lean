/-
  PDesy.Lemmas.ListFacts — facts about `List.foldl`, `List.countP`, `List.reverse`, `upd`,
  `sumList`, if-then-else and `Rat` that do not mention the model.
-/
import PDesy.Model.Basic

namespace PDesy

theorem foldl_inv_mem {α β : Type} (f : β → α → β) (P : β → Prop) (xs : List α)
    (h : ∀ b, ∀ a ∈ xs, P b → P (f b a)) (b : β) (hb : P b) : P (xs.foldl f b) :=
  List.foldlRecOn xs f hb fun b hb a ha => h b a ha hb

theorem foldl_upd_if {α : Type} (p : α → Bool) (v : α) (xs : List Nat) (g : Nat → α) (y : Nat) :
    xs.foldl (fun g x => if p (g x) then upd g x v else g) g y =
      if y ∈ xs ∧ p (g y) = true then v else g y := by
  induction xs generalizing g with
  | nil => simp
  | cons x xs ih =>
    rw [List.foldl_cons, ih]
    by_cases hy : y = x
    · subst hy
      by_cases hp : p (g y) = true
      · simp [hp]
      · simp [hp]
    · by_cases hp : p (g x) = true
      · simp [hp, hy]
      · simp [hp, hy]

theorem foldl_get_upd_if {α β : Type} (get : β → Nat → α) (f : β → Nat → β) (p : α → Bool) (v : α)
    (h : ∀ b x, get (f b x) = if p (get b x) then upd (get b) x v else get b)
    (xs : List Nat) (b : β) (y : Nat) :
    get (xs.foldl f b) y = if y ∈ xs ∧ p (get b y) = true then v else get b y := by
  rw [← List.foldl_hom get (g₁ := f) (g₂ := fun g x => if p (g x) then upd g x v else g)
    fun b x => (h b x).symm]
  exact foldl_upd_if p v xs (get b) y

theorem eq_singleton_of_mem_of_length_le_one {α : Type} {xs : List α} {a : α} (h : a ∈ xs)
    (hl : xs.length ≤ 1) : xs = [a] := by
  match xs, h, hl with
  | [x], h, _ => rw [List.mem_singleton.mp h]
  | _ :: _ :: _, _, hl => simp at hl

theorem countP_lt_of_mem {α : Type} {p q : α → Bool} {xs : List α}
    (h : ∀ x ∈ xs, p x = true → q x = true) {a : α} (ha : a ∈ xs) (hp : p a = false)
    (hq : q a = true) : xs.countP p < xs.countP q := by
  obtain ⟨l₁, l₂, rfl⟩ := List.append_of_mem ha
  have h1 := List.countP_mono_left (l := l₁) fun x hx => h x (List.mem_append_left _ hx)
  have h2 := List.countP_mono_left (l := l₂) fun x hx =>
    h x (List.mem_append_right _ (List.mem_cons_of_mem _ hx))
  rw [List.countP_append, List.countP_append, List.countP_cons, List.countP_cons, hp, hq]
  simp only [Bool.false_eq_true, if_false, if_true]
  omega

theorem upd_eq_self {α : Type} (f : Nat → α) (i : Nat) : upd f i (f i) = f := by
  funext j; rw [upd_apply]; split
  · rename_i h; rw [h]
  · rfl

section upd
variable {f : Nat → List Nat} {t t' x y : Nat}

theorem prefix_upd_append : f t' <+: upd f t (f t ++ [x]) t' := by
  rw [upd_apply]; split
  · rename_i e; rw [e]; exact List.prefix_append _ _
  · exact List.prefix_refl _

theorem mem_upd_append : y ∈ upd f t (f t ++ [x]) t' ↔ y ∈ f t' ∨ (t' = t ∧ y = x) := by
  rw [upd_apply]; split
  · rename_i e; rw [e, List.mem_append, List.mem_singleton, and_iff_right rfl]
  · rename_i e; exact (or_iff_left fun h => e h.1).symm

theorem upd_append_nil (h : upd f t (f t ++ [x]) t' = []) : f t' = [] := by
  rw [upd_apply] at h; split at h
  · simp at h
  · exact h

end upd

theorem ite3_last {α : Type} {c d : Prop} [Decidable c] [Decidable d] {a b e e' : α}
    (h : ¬ c → ¬ d → e = e') :
    (if c then a else if d then b else e) = (if c then a else if d then b else e') := by
  by_cases hc : c
  · rw [if_pos hc, if_pos hc]
  · rw [if_neg hc, if_neg hc]
    by_cases hd : d
    · rw [if_pos hd, if_pos hd]
    · rw [if_neg hd, if_neg hd]; exact h hc hd

theorem ite_else_ite {α : Type} (c : Prop) [Decidable c] (a a' b : α) :
    (if c then a else if c then a' else b) = if c then a else b := by
  by_cases h : c
  · rw [if_pos h, if_pos h]
  · rw [if_neg h, if_neg h, if_neg h]

theorem nil_and_nil_of_not {α β : Type} {a : List α} {b : List β} (h : ¬ (a ≠ [] ∨ b ≠ [])) :
    a = [] ∧ b = [] := by
  cases a <;> cases b <;> simp at h ⊢

/-! Three facts of `Rat` that core lacks, under the names they would bear there (they are
`PDesy.sub_zero` …, not `Rat.sub_zero` …). -/

theorem sub_zero (x : Rat) : x - 0 = x := by rw [Rat.sub_eq_add_neg, Rat.neg_zero, Rat.add_zero]

theorem le_add_of_nonneg {a b c : Rat} (h : a ≤ b) (hc : 0 ≤ c) : a ≤ b + c := by
  have := (Rat.add_le_add_left (c := b)).2 hc
  rw [Rat.add_zero] at this
  exact Rat.le_trans h this

theorem div_pos {a b : Rat} (ha : 0 < a) (hb : 0 < b) : 0 < a / b :=
  (Rat.lt_div_iff hb).mpr (by rw [Rat.zero_mul]; exact ha)

theorem ite_sub_ite (c : Prop) [Decidable c] (x d : Rat) :
    (if c then x - d else x) = x - (if c then d else 0) := by
  split
  · rfl
  · rw [sub_zero]

theorem sumList_append (xs ys : List Rat) : sumList (xs ++ ys) = sumList xs + sumList ys := by
  induction xs with
  | nil => exact (Rat.zero_add _).symm
  | cons x xs ih => simp only [List.cons_append, sumList, ih, Rat.add_assoc]

theorem sumList_perm {xs ys : List Rat} (h : xs.Perm ys) : sumList xs = sumList ys := by
  induction h with
  | nil => rfl
  | cons x _ ih => exact congrArg (x + ·) ih
  | swap x y l => exact Rat.add_left_comm y x _
  | trans _ _ ih1 ih2 => exact ih1.trans ih2

theorem map_getD_eq {α : Type} {xs : List α} {f : α → Option Rat} {g : α → Rat}
    (h : ∀ x ∈ xs, f x = some (g x)) : (xs.map fun x => (f x).getD 0) = xs.map g :=
  List.map_congr_left fun x hx => by rw [h x hx]; rfl

theorem getElem?_reverse_mirror {α β : Type} {xs : List α} {ys : List β}
    (hlen : xs.length = ys.length) {a : α} {b : β} {i j : Nat}
    (hi : xs.reverse[i]? = some a) (hj : ys.reverse[j]? = some b) :
    xs[xs.length - 1 - i]? = some a ∧ ys[ys.length - 1 - j]? = some b ∧
      (ys.length - 1 - j < xs.length - 1 - i → i < j) := by
  have hi' : i < xs.length := List.length_reverse ▸ (List.getElem?_eq_some_iff.mp hi).1
  have hj' : j < ys.length := List.length_reverse ▸ (List.getElem?_eq_some_iff.mp hj).1
  rw [List.getElem?_reverse hi'] at hi
  rw [List.getElem?_reverse hj'] at hj
  refine ⟨hi, hj, fun h => Nat.lt_of_not_le fun hle => Nat.not_le_of_lt h ?_⟩
  rw [hlen]; exact Nat.sub_le_sub_left hle _

end PDesy
