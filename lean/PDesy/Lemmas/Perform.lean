/-
  PDesy.Lemmas.Perform — remaining work and absence (C02, C10):
  what `perform` does, the documented contribution `plainContrib`, what `__update` and one loop
  step do to `rem`, and the resource states from `absenceSet` to the cost/perform boundary
  `preCost`.
-/
import PDesy.Lemmas.Lifecycle
import PDesy.Lemmas.Alloc

namespace PDesy.Perform
open Finish Lifecycle

variable {m : Model}

theorem perform_rem (working autoFlag : Bool) (l : Live) (t : Nat) :
    (perform m working autoFlag l).rem t =
      if t < m.nT ∧ l.tstate t = .working ∧
          (working = true ∨ (autoFlag = true ∧ (m.task t).isAuto = true))
      then l.rem t - contrib m l t else l.rem t := by
  simp [perform_eq, and_assoc]

theorem perform_frame (working autoFlag : Bool) (l : Live) :
    perform m working autoFlag l = { l with rem := (perform m working autoFlag l).rem } := by
  rw [perform_eq]

theorem perform_off (l : Live) : perform m false false l = l := by
  rw [perform_eq]
  simp only [Bool.false_and, Bool.or_self, Bool.and_false, Bool.false_eq_true, if_false]

/-- what a worker adds to a task named `name` in one step: its skill value if it has the skill
and is not absent, otherwise nothing -/
def plainW (m : Model) (l : Live) (name w : Nat) : Rat :=
  if hasSkill (m.worker w).skills name = true ∧ l.wstate w ≠ .absence
  then skillVal (m.worker w).skills name else 0

/-- the same for a facility -/
def plainF (m : Model) (l : Live) (name f : Nat) : Rat :=
  if hasSkill (m.fac f).skills name = true ∧ l.fstate f ≠ .absence
  then skillVal (m.fac f).skills name else 0

/-- the documented contribution to a WORKING task in one step: the fixed unit rate for an
automatic task; the sum over the (worker, facility) pairs, by position, of worker skill times
facility skill when the task needs a facility; the sum of the workers' skills otherwise -/
def plainContrib (m : Model) (l : Live) (t : Nat) : Rat :=
  let name := (m.task t).name
  if (m.task t).isAuto then (m.task t).autoRate
  else if (m.task t).needFac then
    sumList (((l.allocW t).zip (l.allocF t)).map fun (w, f) => plainW m l name w * plainF m l name f)
  else sumList ((l.allocW t).map (plainW m l name))

/-- the body of `wProgress` / `fProgress` for a resource that serves exactly one WORKING task -/
theorem progress_one (sk : Bool) (st : RS) (v : Rat) :
    (if !sk then 0 else if st == .absence then 0 else v / ((1 : Nat) : Rat)) =
      if sk = true ∧ st ≠ .absence then v else 0 := by
  rw [Rat.div_def, Rat.natCast_ofNat, Rat.inv_eq_of_mul_eq_one (Rat.mul_one 1), Rat.mul_one]
  cases sk <;> cases st <;> rfl

theorem wProgress_of_count (l : Live) (name w : Nat) (h : workingCount l (l.wasg w) = 1) :
    wProgress m l name w = plainW m l name w := by
  unfold wProgress plainW
  rw [h]
  exact progress_one ..

theorem fProgress_of_count (l : Live) (name f : Nat) (h : workingCount l (l.fasg f) = 1) :
    fProgress m l name f = plainF m l name f := by
  unfold fProgress plainF
  rw [h]
  exact progress_one ..

theorem _root_.PDesy.TwoWay.count_of_mem {alloc asg : Nat → List Nat} (h : TwoWay alloc asg)
    {l : Live} {t r : Nat} (hr : r ∈ alloc t) (ht : l.tstate t = .working) :
    workingCount l (asg r) = 1 := by
  rw [h.asg_eq hr]; simp [workingCount, ht]

theorem contrib_auto {t : Nat} (l : Live) (ha : (m.task t).isAuto = true) :
    contrib m l t = (m.task t).autoRate := by
  simp [contrib, ha]

/-- no division by the number of tasks a resource serves remains: under the allocation invariant
every worker and facility of a WORKING task serves exactly that task -/
theorem contrib_eq_plainContrib {l : Live} (h : AllocInv m l) {t : Nat}
    (ht : l.tstate t = .working) : contrib m l t = plainContrib m l t := by
  unfold contrib plainContrib
  dsimp only
  cases (m.task t).isAuto
  · cases (m.task t).needFac
    · refine congrArg sumList (List.map_congr_left fun w hw => ?_)
      exact wProgress_of_count l _ w (h.W.count_of_mem hw ht)
    · refine congrArg sumList (List.map_congr_left fun ⟨w, f⟩ hp => ?_)
      dsimp only
      rw [wProgress_of_count l _ w (h.W.count_of_mem (List.of_mem_zip hp).1 ht),
        fProgress_of_count l _ f (h.F.count_of_mem (List.of_mem_zip hp).2 ht)]
  · rw [if_pos rfl, if_pos rfl]

/-- the two sides of `progress_one` for an absent or unskilled resource, whatever the number of
tasks it serves -/
theorem progress_zero {sk : Bool} {st : RS} (h : st = .absence ∨ sk = false) (v d : Rat) :
    (if !sk then 0 else if st == .absence then 0 else v / d) = 0 := by
  rcases h with h | h <;> simp [h]

theorem plain_zero {sk : Bool} {st : RS} (h : st = .absence ∨ sk = false) (v : Rat) :
    (if sk = true ∧ st ≠ .absence then v else 0) = 0 := by
  rcases h with h | h <;> simp [h]

theorem plainW_zero (l : Live) (name w : Nat)
    (h : l.wstate w = .absence ∨ hasSkill (m.worker w).skills name = false) :
    plainW m l name w = 0 := plain_zero h _

theorem plainF_zero (l : Live) (name f : Nat)
    (h : l.fstate f = .absence ∨ hasSkill (m.fac f).skills name = false) :
    plainF m l name f = 0 := plain_zero h _

theorem wProgress_zero (l : Live) (name w : Nat)
    (h : l.wstate w = .absence ∨ hasSkill (m.worker w).skills name = false) :
    wProgress m l name w = 0 := progress_zero h _ _

theorem fProgress_zero (l : Live) (name f : Nat)
    (h : l.fstate f = .absence ∨ hasSkill (m.fac f).skills name = false) :
    fProgress m l name f = 0 := progress_zero h _ _

@[simp] theorem compCheck_rem (l : Live) : (compCheck m l).rem = l.rem := by rw [compCheck_eq]
@[simp] theorem chkReady_rem (l : Live) : (chkReady m l).rem = l.rem := by rw [chkReady_eq]
@[simp] theorem pert_rem (time : Nat) (l : Live) : (pert m time l).rem = l.rem := by rw [pert_frame]
@[simp] theorem absenceSet_rem (time : Nat) (wk : Bool) (l : Live) :
    (absenceSet m time wk l).rem = l.rem := by rw [absenceSet_eq]

@[simp] theorem chkRemove_rem (l : Live) : (chkRemove m l).rem = l.rem := by rw [chkRemove_frame]

@[simp] theorem allocate_rem (lg : Logs) (rule : TaskRule) (l : Live) :
    (allocate m lg rule l).rem = l.rem := by rw [allocate_frame]

@[simp] theorem chkWorking_rem (l : Live) : (chkWorking m l).rem = l.rem := by
  rw [chkWorking_frame]

-- `m` explicit: under `▸` against a goal that shows `update` only after unfolding, unification would
-- have to find it through `pert`
@[simp] theorem update_rem (m : Model) (time : Nat) (l : Live) :
    (update m time l).rem = (chkFinished m l).rem := by
  rw [update_frame]

theorem chkFinished_rem (l : Live) (t : Nat) :
    (chkFinished m l).rem t =
      if (chkFinished m l).tstate t = .finished ∧ l.tstate t ≠ .finished then 0 else l.rem t := by
  rcases chkFinished_closes m l t with ⟨h1, h2⟩ | ⟨h1, _, h3, h4⟩
  · rw [h1, h2, if_neg]
    exact fun h => h.2 h.1
  · rw [h3, h4, h1]; simp

theorem update_rem_eq (time : Nat) (l : Live) (t : Nat) :
    (update m time l).rem t =
      if (update m time l).tstate t = .finished ∧ l.tstate t ≠ .finished then 0 else l.rem t := by
  rw [update_rem, chkFinished_rem]
  simp only [update_finished_iff]

theorem update_cases (m : Model) (time : Nat) (l : Live) (t : Nat) :
    ((update m time l).tstate t = l.tstate t ∧ (update m time l).rem t = l.rem t) ∨
    (l.tstate t = .none ∧ (update m time l).tstate t = .ready ∧
      (update m time l).rem t = l.rem t ∧ readyGate m (update m time l).tstate t = true) ∨
    (l.tstate t = .working ∧ l.rem t ≤ 0 ∧ (update m time l).tstate t = .finished ∧
      (update m time l).rem t = 0) := by
  have hg := chkReady_readyGate m (chkFinished m l) t
  rw [← update_tstate (time := time)] at hg
  rw [hg, update_tstate, update_rem]
  rcases chkReady_cases m (chkFinished m l) t with e | ⟨e0, e, hopen⟩
  · rw [e]
    rcases chkFinished_closes m l t with ⟨h1, h2⟩ | ⟨h1, h2, h3, h4⟩
    · exact Or.inl ⟨h1, h2⟩
    · exact Or.inr (Or.inr ⟨h1, h2, h3, h4⟩)
  · -- NONE after `check_state(FINISHED)`, so untouched by it
    rcases chkFinished_closes m l t with ⟨h1, h2⟩ | ⟨_, _, h3, _⟩
    · exact Or.inr (Or.inl ⟨h1 ▸ e0, e, h2, hopen⟩)
    · rw [h3] at e0; cases e0

/-- the live state at the cost/perform boundary of `stepBody` (after absence, allocation,
`check_state(WORKING)` and the component check; `l4` in the model) -/
def preCost (m : Model) (p : Params) (s : St) : Live :=
  compCheck m
    (if (!(p.absence.contains s.time) || p.autoFlag) then chkWorking m
      (if !(p.absence.contains s.time) then
        allocate m s.logs p.rule (absenceSet m s.time (!(p.absence.contains s.time)) s.live)
       else absenceSet m s.time (!(p.absence.contains s.time)) s.live)
     else
      (if !(p.absence.contains s.time) then
        allocate m s.logs p.rule (absenceSet m s.time (!(p.absence.contains s.time)) s.live)
       else absenceSet m s.time (!(p.absence.contains s.time)) s.live))

/-! A statement about a whole step reads `stepBody_live_preCost` with the value of `preCost` in the
case at hand; `preCost_eq` leads from there to the pieces Lifecycle names. -/

theorem preCost_eq (p : Params) (s : St) :
    preCost m p s = compCheck m (chkWorkingIf (startGuard p s) m (preWorking m p s)) := rfl

theorem preCost_active (p : Params) (s : St)
    (h : (!(p.absence.contains s.time) || p.autoFlag) = true) :
    preCost m p s = compCheck m (chkWorking m
      (if !(p.absence.contains s.time) then
        allocate m s.logs p.rule (absenceSet m s.time (!(p.absence.contains s.time)) s.live)
       else absenceSet m s.time (!(p.absence.contains s.time)) s.live)) := by
  unfold preCost; rw [if_pos h]

theorem preCost_on (p : Params) (s : St) (h : p.absence.contains s.time = false) :
    preCost m p s =
      compCheck m (chkWorking m (allocate m s.logs p.rule (absenceSet m s.time true s.live))) := by
  rw [preCost_active p s (by rw [h]; rfl), h, Bool.not_false, if_pos rfl]

theorem preCost_inactive (p : Params) (s : St) (h : p.absence.contains s.time = true)
    (hf : p.autoFlag = false) :
    preCost m p s = compCheck m (absenceSet m s.time false s.live) := by
  unfold preCost; rw [h, hf]; rfl

theorem stepBody_live_preCost (p : Params) (s : St) :
    (stepBody m p s).live =
      perform m (!(p.absence.contains s.time)) p.autoFlag (preCost m p s) := rfl

/-- a project absence step with the flag off: neither `allocate` nor `check_state(WORKING)` nor
`perform` does anything -/
theorem stepBody_inactive (p : Params) (s : St) (h : p.absence.contains s.time = true)
    (hf : p.autoFlag = false) :
    (stepBody m p s).live = compCheck m (absenceSet m s.time false s.live) := by
  rw [stepBody_live_preCost, preCost_inactive p s h hf, h, hf]
  exact perform_off _

theorem stepBody_tstate_preCost (p : Params) (s : St) :
    (stepBody m p s).live.tstate = (preCost m p s).tstate := by
  rw [stepBody_live_preCost, perform_eq]

theorem stepBody_wstate_preCost (p : Params) (s : St) :
    (stepBody m p s).live.wstate = (preCost m p s).wstate := by
  rw [stepBody_live_preCost, perform_eq]

theorem stepBody_fstate_preCost (p : Params) (s : St) :
    (stepBody m p s).live.fstate = (preCost m p s).fstate := by
  rw [stepBody_live_preCost, perform_eq]

theorem preCost_rem (p : Params) (s : St) : (preCost m p s).rem = s.live.rem := by
  rw [preCost_eq, compCheck_eq, chkWorkingIf_frame, preWorking_frame]

theorem preCost_start (p : Params) (s : St) : Start s.live.tstate (preCost m p s).tstate := by
  rw [← stepBody_tstate_preCost]; exact stepBody_start m p s

theorem stepBody_rem (p : Params) (s : St) (t : Nat) :
    (stepBody m p s).live.rem t =
      if t < m.nT ∧ (preCost m p s).tstate t = .working ∧
          (workingAt p s.time = true ∨ (p.autoFlag = true ∧ (m.task t).isAuto = true))
      then s.live.rem t - contrib m (preCost m p s) t else s.live.rem t := by
  rw [stepBody_live_preCost, perform_rem, preCost_rem]; rfl

/-- at a project absence step only a WORKING automatic task with the flag on loses work -/
theorem stepBody_rem_off (p : Params) (s : St) (t : Nat) (h : workingAt p s.time = false)
    (ht : (m.task t).isAuto = false ∨ p.autoFlag = false ∨
      (stepBody m p s).live.tstate t ≠ .working) :
    (stepBody m p s).live.rem t = s.live.rem t := by
  rw [stepBody_rem, h, if_neg]
  rintro ⟨_, hw, hact | ⟨ha, hb⟩⟩
  · cases hact
  · rcases ht with ht | ht | ht
    · rw [ht] at hb; cases hb
    · rw [ht] at ha; cases ha
    · exact ht ((congrFun (stepBody_tstate_preCost p s) t).trans hw)

/-- `perform` changes `rem` only, which `contrib` does not read: the contribution of a step can be
read off the state the step records -/
theorem stepBody_contrib (p : Params) (s : St) (t : Nat) :
    contrib m (stepBody m p s).live t = contrib m (preCost m p s) t := by
  rw [stepBody_live_preCost, perform_eq]
  -- on a variable the unifier does not try to unfold the state before it unfolds `contrib`
  generalize preCost m p s = l4
  rfl

theorem initProject_rem (logInfo : Bool) (s : St) :
    (initProject m true logInfo s).live.rem = (initLive m logInfo s.live).rem := by
  rw [initProject_live, initComps_frame, chkReady_eq, pert_frame]

theorem enter_rem {p : Params} (hp : p.initState = true) (s : St) (t : Nat) :
    (enter m p s).live.rem t = (m.task t).work * (1 - (m.task t).prog) := by
  rw [enter_live_init m hp, initProject_rem, initLive_eq]

theorem enter_not_finished {p : Params} (hp : p.initState = true) (s : St) (t : Nat)
    (hex : ¬ exempt m t) : (enter m p s).live.tstate t ≠ .finished := by
  rcases enter_shape m hp s t hex with h | ⟨h, _⟩ <;> rw [h] <;> nofun

/-! A FINISHED task reports remaining work 0. -/

theorem update_finzero (t : Nat) (time : Nat) (l : Live)
    (h : l.tstate t = .finished → l.rem t = 0) :
    (update m time l).tstate t = .finished → (update m time l).rem t = 0 := by
  intro hf
  rw [update_rem_eq]
  split
  · rfl
  · rename_i hn
    exact h (Decidable.not_not.mp fun h0 => hn ⟨hf, h0⟩)

theorem stepBody_finzero (p : Params) (t : Nat) (s : St)
    (h : s.live.tstate t = .finished → s.live.rem t = 0) :
    (stepBody m p s).live.tstate t = .finished → (stepBody m p s).live.rem t = 0 := by
  intro hf
  rw [stepBody_tstate_preCost] at hf
  rw [stepBody_rem, if_neg]
  · exact h (((preCost_start p s).finished_iff t).mp hf)
  · intro hc; rw [hf] at hc; cases hc.2.1

theorem finzero_loopInv (p : Params) (t : Nat) :
    LoopInv m p (fun s => s.live.tstate t = .finished → s.live.rem t = 0) :=
  .of_live (I := fun l => l.tstate t = .finished → l.rem t = 0) (update_finzero t)
    (stepBody_finzero p t)

/-- READY tasks hold nothing (a consequence of `HoldWorking`) -/
def ReadyEmpty (l : Live) : Prop := ∀ t, l.tstate t = .ready → l.allocW t = [] ∧ l.allocF t = []

theorem readyEmpty_of_holdWorking {l : Live} (h : HoldWorking l) : ReadyEmpty l := by
  intro t ht
  exact nil_and_nil_of_not fun hne => by rw [h t hne] at ht; cases ht

theorem chkWorking_wstate_keep (l : Live) (w : Nat) (h : l.wstate w = .absence)
    (hn : ∀ t, l.tstate t = .ready → w ∉ l.allocW t) : (chkWorking m l).wstate w = .absence := by
  rw [(chkWorking_wstate m l w).2 fun t _ _ hw hc => ?_, h]
  rcases hc with hr | ⟨_, hf⟩
  · exact hn t hr hw
  · rw [h] at hf; cases hf

theorem chkWorking_fstate_keep (l : Live) (f : Nat) (h : l.fstate f = .absence)
    (hn : ∀ t, l.tstate t = .ready → f ∉ l.allocF t) : (chkWorking m l).fstate f = .absence := by
  rw [(chkWorking_fstate m l f).2 fun t _ _ _ hf hc => ?_, h]
  rcases hc with hr | ⟨_, _, hfree⟩
  · exact hn t hr hf
  · rw [h] at hfree; cases hfree

/-- What `absenceSet` marked ABSENCE is still ABSENCE at the cost/perform boundary, provided
READY tasks held nothing before the step: `allocate` never gives it, and `check_state(WORKING)`
switches the members of READY tasks and the FREE members of WORKING tasks. -/
theorem preCost_absence_keep (p : Params) (s : St) (hre : ReadyEmpty s.live) :
    (∀ w, (absenceSet m s.time (workingAt p s.time) s.live).wstate w = .absence →
      (preCost m p s).wstate w = .absence) ∧
    (∀ f, (absenceSet m s.time (workingAt p s.time) s.live).fstate f = .absence →
      (preCost m p s).fstate f = .absence) := by
  unfold workingAt
  have hacc := preWorking_afterPass m p s
  have ha : (absenceSet m s.time (!(p.absence.contains s.time)) s.live).allocW = s.live.allocW ∧
      (absenceSet m s.time (!(p.absence.contains s.time)) s.live).allocF = s.live.allocF := by
    rw [absenceSet_eq]; exact ⟨rfl, rfl⟩
  rw [preCost_eq, compCheck_eq, ← hacc.ws, ← hacc.fs]
  dsimp only
  cases startGuard p s
  · exact ⟨fun _ h => h, fun _ h => h⟩
  · -- a READY task holds only what it got in this pass, and that was FREE after `absenceSet`
    refine ⟨fun w h => chkWorking_wstate_keep _ w h fun t ht hmem => ?_,
      fun f h => chkWorking_fstate_keep _ f h fun t ht hmem => ?_⟩
    · rw [preWorking_tstate] at ht
      rcases hacc.srcW t w hmem with h1 | ⟨_, _, h1⟩
      · rw [ha.1, (hre t ht).1] at h1; cases h1
      · rw [← hacc.ws, h] at h1; cases h1
    · rw [preWorking_tstate] at ht
      rcases hacc.srcF t f hmem with h1 | ⟨_, h1, _⟩
      · rw [ha.2, (hre t ht).2] at h1; cases h1
      · rw [← hacc.fs, h] at h1; cases h1

end PDesy.Perform
