/-
  PDesy.Lemmas.PertSpec — the PERT/CPM equations and what follows from them on an acyclic network.

  The equations are stated twice: `AEqs` over abstract predecessor / successor lists, where
  everything is proved by induction along the DAG (uniqueness, no negative slack, a critical
  predecessor), and `PertEqs` over the model's link lists, the specification C12 is stated with;
  `pertEqs_iff` takes the one to the other.
-/
import PDesy.Model.Phases
import PDesy.Lemmas.ListFacts
namespace PDesy.PertSpec

theorem foldl_sel_mem {α : Type} (f : α → α → α) (hf : ∀ a b, f a b = a ∨ f a b = b) (l : List α) (a : α) :
    l.foldl f a = a ∨ l.foldl f a ∈ l := by
  induction l generalizing a with
  | nil => exact Or.inl rfl
  | cons x xs ih =>
    rw [List.foldl_cons, List.mem_cons]
    rcases ih (f a x) with h | h
    · rw [h]; exact (hf a x).imp_right Or.inl
    · exact Or.inr (Or.inr h)

theorem foldl_bound_iff {α : Type} (f : α → α → α) (R : α → Prop) (hf : ∀ a b, R (f a b) ↔ R a ∧ R b)
    (l : List α) (a : α) : R (l.foldl f a) ↔ R a ∧ ∀ y ∈ l, R y := by
  induction l generalizing a with
  | nil => simp
  | cons x xs ih => rw [List.foldl_cons, ih, hf, List.forall_mem_cons, and_assoc]

/-! `max` on `Rat` by hand: the toolchain has `Std.MinEqOr Rat` and `Std.le_min_iff` for `min` (used for
`lmin` below), but no `Std.MaxEqOr Rat` and no `Std.LawfulOrderSup Rat` instance. -/

theorem rmax_sel (a b : Rat) : max a b = a ∨ max a b = b := by
  rw [Rat.max_def]; split
  · exact Or.inr rfl
  · exact Or.inl rfl

theorem rmax_le_iff {a b c : Rat} : max a b ≤ c ↔ a ≤ c ∧ b ≤ c := by
  rw [Rat.max_def]; split <;> constructor
  · intro h; exact ⟨Rat.le_trans ‹_› h, h⟩
  · exact fun h => h.2
  · intro h; exact ⟨h, Rat.le_trans (Rat.le_of_lt (Rat.not_le.1 ‹_›)) h⟩
  · exact fun h => h.1

theorem foldl_max_le_iff (l : List Rat) (a c : Rat) :
    l.foldl max a ≤ c ↔ a ≤ c ∧ ∀ y ∈ l, y ≤ c :=
  foldl_bound_iff max (· ≤ c) (fun _ _ => rmax_le_iff) l a

theorem le_foldl_max_of_mem (l : List Rat) (a : Rat) {y : Rat} (h : y ∈ l) : y ≤ l.foldl max a :=
  ((foldl_max_le_iff l a _).1 (Rat.le_refl)).2 y h

theorem foldl_max_mem (l : List Rat) (a : Rat) : l.foldl max a = a ∨ l.foldl max a ∈ l :=
  foldl_sel_mem max rmax_sel l a

theorem foldl_max_attained {l : List Rat} {a : Rat} (hne : l ≠ []) (h : ∀ y ∈ l, a ≤ y) :
    l.foldl max a ∈ l := by
  rcases foldl_max_mem l a with h1 | h1
  · obtain ⟨y, hy⟩ := List.exists_mem_of_ne_nil _ hne
    rw [h1, Rat.le_antisymm (h y hy) (h1 ▸ le_foldl_max_of_mem l a hy)]
    exact hy
  · exact h1

theorem foldl_max_shift (l : List Rat) (a d : Rat) :
    (l.map (· + d)).foldl max (a + d) = l.foldl max a + d := by
  induction l generalizing a with
  | nil => rfl
  | cons x xs ih =>
    simp only [List.map_cons, List.foldl_cons]
    have : max (a + d) (x + d) = max a x + d := by
      rw [Rat.max_def, Rat.max_def]; simp only [Rat.add_le_add_right]; split <;> rfl
    rw [this, ih]

/-- the minimum of a list, `dflt` when it is empty -/
def lmin (dflt : Rat) : List Rat → Rat
  | [] => dflt
  | x :: xs => xs.foldl min x

theorem lmin_mem (c : Rat) {l : List Rat} (h : l ≠ []) : lmin c l ∈ l := by
  cases l with
  | nil => exact absurd rfl h
  | cons x xs => exact List.mem_cons.2 (foldl_sel_mem min Std.MinEqOr.min_eq_or xs x)

theorem lmin_le (c : Rat) {l : List Rat} {y : Rat} (h : y ∈ l) : lmin c l ≤ y := by
  cases l with
  | nil => exact nomatch h
  | cons x xs =>
    exact List.forall_mem_cons.2
      ((foldl_bound_iff min (lmin c (x :: xs) ≤ ·) (fun _ _ => Std.le_min_iff) xs x).1 Rat.le_refl) y h

theorem lmin_unique (c : Rat) {l : List Rat} {v : Rat} (hm : v ∈ l) (hle : ∀ y ∈ l, v ≤ y) :
    lmin c l = v :=
  Rat.le_antisymm (lmin_le c hm) (hle _ (lmin_mem c (List.ne_nil_of_mem hm)))

theorem maxList_cons (dflt x : Rat) (xs : List Rat) : maxList dflt (x :: xs) = xs.foldl max x := by
  simp only [maxList]
  congr 1
  funext a b
  rw [Rat.max_def]
  by_cases h : a < b
  · rw [if_pos h, if_pos (Rat.le_of_lt h)]
  · rw [if_neg h]; split
    · exact Rat.le_antisymm ‹a ≤ b› (Rat.not_lt.1 h)
    · rfl

theorem maxList_spec (dflt : Rat) {l : List Rat} (h : l ≠ []) :
    maxList dflt l ∈ l ∧ ∀ y ∈ l, y ≤ maxList dflt l := by
  cases l with
  | nil => exact absurd rfl h
  | cons x xs =>
    rw [maxList_cons]
    exact ⟨List.mem_cons.2 (foldl_max_mem xs x),
      List.forall_mem_cons.2 ((foldl_max_le_iff xs x _).1 Rat.le_refl)⟩

theorem maxList_idem (d : Rat) (xs : List Rat) : maxList (maxList d xs) xs = maxList d xs := by
  cases xs <;> rfl

theorem maxList_shift (c c' d : Rat) {xs : List Rat} (h : xs ≠ []) :
    maxList c' (xs.map (· + d)) = maxList c xs + d := by
  cases xs with
  | nil => exact absurd rfl h
  | cons x xs =>
    rw [List.map_cons, maxList_cons, maxList_cons]
    exact foldl_max_shift xs x d

/-- an acyclic graph on `[0,n)` given by predecessor lists `G` and successor lists `H` -/
structure DAG (n : Nat) (G H : Nat → List Nat) : Prop where
  G_lt : ∀ x, x < n → ∀ p ∈ G x, p < n
  H_lt : ∀ x, x < n → ∀ y ∈ H x, y < n
  cons : ∀ x y, x < n → y < n → (x ∈ G y ↔ y ∈ H x)
  acyc : ∃ rk : Nat → Nat, ∀ x, x < n → ∀ p ∈ G x, rk p < rk x

/-- fuel-indexed longest-path recursion: `lpF k x` looks `k` edges back -/
def lpF {α : Type} [Max α] [Add α] (G : Nat → List Nat) (base : α) (w : Nat → α) : Nat → Nat → α
  | 0, _ => base
  | k + 1, x => ((G x).map fun p => lpF G base w k p + w p).foldl max base

theorem lpF_stable {α : Type} [Max α] [Add α] {n : Nat} {G : Nat → List Nat} (base : α) (w : Nat → α)
    (rk : Nat → Nat) (hG : ∀ x, x < n → ∀ p ∈ G x, p < n)
    (hrk : ∀ x, x < n → ∀ p ∈ G x, rk p < rk x) :
    ∀ a x, x < n → ∀ b, rk x < a → rk x < b → lpF G base w a x = lpF G base w b x := by
  intro a
  induction a with
  | zero => intro x _ b h; exact absurd h (Nat.not_lt_zero _)
  | succ a ih =>
    intro x hx b ha hb
    cases b with
    | zero => exact absurd hb (Nat.not_lt_zero _)
    | succ b =>
      simp only [lpF]
      congr 1
      apply List.map_congr_left
      intro p hp
      have hp' := hrk x hx p hp
      rw [ih p (hG x hx p hp) b (Nat.lt_of_lt_of_le hp' (Nat.le_of_lt_succ ha))
        (Nat.lt_of_lt_of_le hp' (Nat.le_of_lt_succ hb))]

theorem exists_lp {α : Type} [Max α] [Add α] {n : Nat} {G : Nat → List Nat} (base : α) (w : Nat → α)
    (hG : ∀ x, x < n → ∀ p ∈ G x, p < n)
    (hac : ∃ rk : Nat → Nat, ∀ x, x < n → ∀ p ∈ G x, rk p < rk x) :
    ∃ E : Nat → α, ∀ x, x < n → E x = ((G x).map fun p => E p + w p).foldl max base := by
  obtain ⟨rk, hrk⟩ := hac
  refine ⟨fun x => lpF G base w (rk x + 1) x, ?_⟩
  intro x hx
  show lpF G base w (rk x + 1) x =
    ((G x).map fun p => lpF G base w (rk p + 1) p + w p).foldl max base
  rw [lpF]
  congr 1
  apply List.map_congr_left
  intro p hp
  rw [lpF_stable base w rk hG hrk (rk x) p (hG x hx p hp) (rk p + 1) (hrk x hx p hp)
    (Nat.lt_succ_self _)]

theorem lp_le_iff {G : Nat → List Nat} {w E : Nat → Rat} {base : Rat} {x : Nat}
    (h : E x = ((G x).map fun p => E p + w p).foldl max base) (c : Rat) :
    E x ≤ c ↔ base ≤ c ∧ ∀ p ∈ G x, E p + w p ≤ c := by
  rw [h, foldl_max_le_iff, List.forall_mem_map]

theorem lp_bounds {G : Nat → List Nat} {w E : Nat → Rat} {base : Rat} {x : Nat}
    (h : E x = ((G x).map fun p => E p + w p).foldl max base) :
    base ≤ E x ∧ ∀ p ∈ G x, E p + w p ≤ E x :=
  (lp_le_iff h _).1 Rat.le_refl

/-- properties of a depth function (longest distance, in edges, from a node without predecessors) -/
structure IsDepth (n : Nat) (G : Nat → List Nat) (d : Nat → Nat) : Prop where
  edge : ∀ x, x < n → ∀ p ∈ G x, d p < d x
  pred : ∀ x, x < n → G x ≠ [] → ∃ p ∈ G x, d x = d p + 1
  head : ∀ x, x < n → G x = [] → d x = 0

theorem IsDepth.down {n : Nat} {G : Nat → List Nat} {d : Nat → Nat} (hd : IsDepth n G d)
    (hG : ∀ x, x < n → ∀ p ∈ G x, p < n) :
    ∀ k x, x < n → d x = k → ∀ j, j ≤ k → ∃ y, y < n ∧ d y = j := by
  intro k
  induction k with
  | zero => intro x hx hk j hj; exact ⟨x, hx, hk.trans (Nat.le_zero.1 hj).symm⟩
  | succ k ih =>
    intro x hx hk j hj
    rcases Nat.lt_or_eq_of_le hj with hlt | rfl
    · -- a node of depth `k + 1` has a predecessor of depth `k`
      have hne : G x ≠ [] := fun h0 => Nat.succ_ne_zero k (hk.symm.trans (hd.head x hx h0))
      obtain ⟨p, hp, hdp⟩ := hd.pred x hx hne
      exact ih p (hG x hx p hp) (Nat.succ.inj (hdp.symm.trans hk)) j (Nat.le_of_lt_succ hlt)
    · exact ⟨x, hx, hk⟩

theorem IsDepth.lt {n : Nat} {G : Nat → List Nat} {d : Nat → Nat} (hd : IsDepth n G d)
    (hG : ∀ x, x < n → ∀ p ∈ G x, p < n) : ∀ x, x < n → d x < n := by
  intro x hx
  -- pigeonhole: the `d x + 1` depths `0 … d x` all occur among the `n` values of `d` below `n`
  have := List.nodup_range.length_le_of_subset (l₁ := List.range (d x + 1))
    (l₂ := (List.range n).map d) fun j hj => by
      obtain ⟨y, hy, rfl⟩ := hd.down hG (d x) x hx rfl j (Nat.le_of_lt_succ (List.mem_range.1 hj))
      exact List.mem_map_of_mem (List.mem_range.2 hy)
  rwa [List.length_range, List.length_map, List.length_range] at this

theorem exists_depth {n : Nat} {G : Nat → List Nat}
    (hG : ∀ x, x < n → ∀ p ∈ G x, p < n)
    (hac : ∃ rk : Nat → Nat, ∀ x, x < n → ∀ p ∈ G x, rk p < rk x) :
    ∃ d : Nat → Nat, IsDepth n G d := by
  obtain ⟨d, hdq⟩ := exists_lp (α := Nat) 0 (fun _ => 1) hG hac
  have hedge : ∀ x, x < n → ∀ p ∈ G x, d p < d x := fun x hx p hp =>
    ((foldl_bound_iff max (· ≤ d x) (fun _ _ => Nat.max_le) _ 0).1
      (by rw [← hdq x hx]; exact Nat.le_refl _)).2 (d p + 1)
      (List.mem_map.2 ⟨p, hp, rfl⟩)
  refine ⟨d, hedge, fun x hx hne => ?_, fun x hx h0 => by rw [hdq x hx, h0]; rfl⟩
  rcases foldl_sel_mem max Std.MaxEqOr.max_eq_or ((G x).map fun p => d p + 1) 0 with h | h <;> rw [← hdq x hx] at h
  · obtain ⟨p, hp⟩ := List.exists_mem_of_ne_nil _ hne
    exact absurd (hedge x hx p hp) (h ▸ Nat.not_lt_zero _)
  · obtain ⟨p, hp, e⟩ := List.mem_map.1 h
    exact ⟨p, hp, e.symm⟩

theorem DAG.symm {n : Nat} {G H : Nat → List Nat} (h : DAG n G H) : DAG n H G := by
  obtain ⟨d, hd⟩ := exists_depth h.G_lt h.acyc
  -- the depth `d` goes down along a reversed link and stays below `n` (`IsDepth.lt`), so `n - d`
  -- goes up: a rank of the reversed graph
  refine ⟨h.H_lt, h.G_lt, fun x y hx hy => (h.cons y x hy hx).symm, fun x => n - d x, ?_⟩
  intro x hx y hy
  have hyn := h.H_lt x hx y hy
  have hlt := hd.edge y hyn x ((h.cons x y hx hyn).2 hy)
  exact Nat.sub_lt_sub_left (Nat.lt_trans hlt (hd.lt h.G_lt y hyn)) hlt

theorem DAG.induction {n : Nat} {G H : Nat → List Nat} (h : DAG n G H) (P : Nat → Prop)
    (step : ∀ x, x < n → (∀ p ∈ G x, P p) → P x) : ∀ x, x < n → P x := by
  obtain ⟨rk, hrk⟩ := h.acyc
  have : ∀ r x, x < n → rk x = r → P x := by
    intro r
    induction r using Nat.strongRecOn with
    | _ r ih =>
      intro x hx hr
      apply step x hx
      intro p hp
      exact ih (rk p) (hr ▸ hrk x hx p hp) p (h.G_lt x hx p hp) rfl
  intro x hx
  exact this _ x hx rfl

/-- The PERT/CPM equations on an abstract finish-to-start network: `G` = predecessors,
`H` = successors, `w` = remaining work. -/
structure AEqs (n : Nat) (G H : Nat → List Nat) (w : Nat → Rat) (time : Rat)
    (est eft lst lft : Nat → Rat) (cpl : Rat) : Prop where
  est_eq : ∀ x, x < n → est x = ((G x).map fun p => est p + w p).foldl max time
  eft_eq : ∀ x, x < n → eft x = est x + w x
  cpl_ge : ∀ x, x < n → H x = [] → eft x ≤ cpl
  cpl_at : ∃ x, x < n ∧ H x = [] ∧ eft x = cpl
  lft_eq : ∀ x, x < n → lft x = lmin cpl ((H x).map lst)
  lst_eq : ∀ x, x < n → lst x = lft x - w x

section spec
variable {n : Nat} {G H : Nat → List Nat} {w : Nat → Rat} {time : Rat}
  {est eft lst lft : Nat → Rat} {cpl : Rat}

theorem AEqs.time_le_est (h : AEqs n G H w time est eft lst lft cpl) {x : Nat} (hx : x < n) :
    time ≤ est x :=
  (lp_bounds (h.est_eq x hx)).1

theorem AEqs.edge (h : AEqs n G H w time est eft lst lft cpl) {x p : Nat} (hx : x < n)
    (hp : p ∈ G x) : est p + w p ≤ est x :=
  (lp_bounds (h.est_eq x hx)).2 p hp

theorem AEqs.eft_le_cpl (hg : DAG n G H) (hw : ∀ x, x < n → 0 ≤ w x)
    (h : AEqs n G H w time est eft lst lft cpl) : ∀ x, x < n → eft x ≤ cpl := by
  apply hg.symm.induction
  intro x hx ih
  by_cases h0 : H x = []
  · exact h.cpl_ge x hx h0
  · obtain ⟨y, hy⟩ := List.exists_mem_of_ne_nil _ h0
    have hyn := hg.H_lt x hx y hy
    have h1 := h.edge hyn ((hg.cons x y hx hyn).2 hy)
    have h2 := ih y hy
    rw [h.eft_eq y hyn] at h2
    rw [h.eft_eq x hx]
    exact Rat.le_trans h1 (Rat.le_trans (le_add_of_nonneg Rat.le_refl (hw y hyn)) h2)

theorem AEqs.eft_le_lft (hg : DAG n G H)
    (h : AEqs n G H w time est eft lst lft cpl) : ∀ x, x < n → eft x ≤ lft x := by
  apply hg.symm.induction
  intro x hx ih
  by_cases h0 : H x = []
  · rw [h.lft_eq x hx, h0]
    exact h.cpl_ge x hx h0
  · have hne : (H x).map lst ≠ [] := fun h => h0 (List.map_eq_nil_iff.1 h)
    have hm := lmin_mem cpl hne
    rw [← h.lft_eq x hx] at hm
    obtain ⟨y, hy, hly⟩ := List.mem_map.1 hm
    have hyn := hg.H_lt x hx y hy
    have h1 := h.edge hyn ((hg.cons x y hx hyn).2 hy)
    have h2 := ih y hy
    rw [h.eft_eq y hyn] at h2
    rw [h.eft_eq x hx, ← hly, h.lst_eq y hyn]
    exact Rat.le_trans h1 (Rat.add_le_iff_le_sub.1 h2)

theorem AEqs.est_le_lst (hg : DAG n G H)
    (h : AEqs n G H w time est eft lst lft cpl) : ∀ x, x < n → est x ≤ lst x := by
  intro x hx
  have h1 := h.eft_le_lft hg x hx
  rw [h.eft_eq x hx] at h1
  rw [h.lst_eq x hx]
  exact Rat.add_le_iff_le_sub.1 h1

theorem AEqs.unique (hg : DAG n G H)
    {est' eft' lst' lft' : Nat → Rat} {cpl' : Rat}
    (h : AEqs n G H w time est eft lst lft cpl)
    (h' : AEqs n G H w time est' eft' lst' lft' cpl') :
    cpl = cpl' ∧ ∀ x, x < n → est x = est' x ∧ eft x = eft' x ∧ lst x = lst' x ∧ lft x = lft' x := by
  have hest : ∀ x, x < n → est x = est' x := hg.induction _ fun x hx ih => by
    rw [h.est_eq x hx, h'.est_eq x hx, List.map_congr_left fun p hp => by rw [ih p hp]]
  have heft : ∀ x, x < n → eft x = eft' x := fun x hx => by
    rw [h.eft_eq x hx, h'.eft_eq x hx, hest x hx]
  have hcpl : cpl = cpl' := by
    obtain ⟨x, hx, hx0, hxe⟩ := h.cpl_at
    obtain ⟨y, hy, hy0, hye⟩ := h'.cpl_at
    have h1 := h'.cpl_ge x hx hx0
    have h2 := h.cpl_ge y hy hy0
    rw [heft x hx] at hxe
    rw [heft y hy] at h2
    exact Rat.le_antisymm (hxe ▸ h1) (hye ▸ h2)
  have hl : ∀ x, x < n → lft x = lft' x ∧ lst x = lst' x := hg.symm.induction _ fun x hx ih => by
    have : lft x = lft' x := by
      rw [h.lft_eq x hx, h'.lft_eq x hx, hcpl, List.map_congr_left fun y hy => (ih y hy).2]
    exact ⟨this, by rw [h.lst_eq x hx, h'.lst_eq x hx, this]⟩
  exact ⟨hcpl, fun x hx => ⟨hest x hx, heft x hx, (hl x hx).2, (hl x hx).1⟩⟩

theorem AEqs.crit_pred (hg : DAG n G H) (hw : ∀ x, x < n → 0 ≤ w x)
    (h : AEqs n G H w time est eft lst lft cpl) {x : Nat} (hx : x < n) (hne : G x ≠ [])
    (hc : lst x = est x) : ∃ p ∈ G x, lst p = est p ∧ est x = eft p := by
  have hex : ∃ p ∈ G x, est x = est p + w p := by
    have hm := foldl_max_attained (l := (G x).map fun p => est p + w p) (a := time)
      (fun h => hne (List.map_eq_nil_iff.1 h)) fun y hy => by
        obtain ⟨p, hp, rfl⟩ := List.mem_map.1 hy
        exact le_add_of_nonneg (h.time_le_est (hg.G_lt x hx p hp)) (hw p (hg.G_lt x hx p hp))
    rw [← h.est_eq x hx] at hm
    obtain ⟨p, hp, e⟩ := List.mem_map.1 hm
    exact ⟨p, hp, e.symm⟩
  obtain ⟨p, hp, hpe⟩ := hex
  have hpn := hg.G_lt x hx p hp
  refine ⟨p, hp, ?_, by rw [h.eft_eq p hpn, hpe]⟩
  have h1 : lft p ≤ lst x := by
    rw [h.lft_eq p hpn]
    exact lmin_le cpl (List.mem_map.2 ⟨x, (hg.cons p x hpn hx).1 hp, rfl⟩)
  have h2 := h.eft_le_lft hg p hpn
  rw [h.eft_eq p hpn] at h2
  rw [h.lst_eq p hpn, Rat.le_antisymm (hpe ▸ hc ▸ h1) h2]
  exact Rat.add_sub_cancel

theorem AEqs.crit_tail (h : AEqs n G H w time est eft lst lft cpl) :
    ∃ x, x < n ∧ H x = [] ∧ eft x = cpl ∧ lst x = est x := by
  obtain ⟨x, hx, h0, he⟩ := h.cpl_at
  refine ⟨x, hx, h0, he, ?_⟩
  have h1 : lft x = cpl := by rw [h.lft_eq x hx, h0]; rfl
  rw [h.lst_eq x hx, h1, ← he, h.eft_eq x hx]
  exact Rat.add_sub_cancel

/-- a forward and a backward longest-path function give a solution of the equations; so do any
tables that agree with them below `n` (the equations look at nothing else) -/
theorem AEqs.of_ref (hg : DAG n G H) (hw : ∀ x, x < n → 0 ≤ w x) {E E' : Nat → Rat}
    (hE : ∀ x, x < n → E x = ((G x).map fun p => E p + w p).foldl max time)
    (hge : ∀ x, x < n → H x = [] → E x + w x ≤ cpl)
    (hat : ∃ x, x < n ∧ H x = [] ∧ E x + w x = cpl)
    (hE' : ∀ x, x < n → E' x = ((H x).map fun y => E' y + w y).foldl max (-cpl))
    (he : ∀ x, x < n →
      est x = E x ∧ eft x = E x + w x ∧ lst x = -(E' x + w x) ∧ lft x = -(E' x)) :
    AEqs n G H w time est eft lst lft cpl := by
  refine ⟨fun x hx => ?_, fun x hx => ?_, fun x hx h0 => ?_, ?_, fun x hx => ?_, fun x hx => ?_⟩
  · rw [(he x hx).1, hE x hx]
    congr 1
    exact List.map_congr_left fun p hp => by rw [(he p (hg.G_lt x hx p hp)).1]
  · rw [(he x hx).2.1, (he x hx).1]
  · rw [(he x hx).2.1]; exact hge x hx h0
  · obtain ⟨x, hx, h0, h1⟩ := hat
    exact ⟨x, hx, h0, by rw [(he x hx).2.1, h1]⟩
  · rw [(he x hx).2.2.2, List.map_congr_left fun y hy => (he y (hg.H_lt x hx y hy)).2.2.1]
    by_cases h0 : H x = []
    · rw [hE' x hx, h0]
      exact Rat.neg_neg cpl
    · -- `E' x` is attained by a successor (all candidates are at least `-cpl`)
      have hm := foldl_max_attained (l := (H x).map fun y => E' y + w y) (a := -cpl)
        (fun h => h0 (List.map_eq_nil_iff.1 h)) fun z hz => by
          obtain ⟨y, hy, rfl⟩ := List.mem_map.1 hz
          have hyn := hg.H_lt x hx y hy
          exact le_add_of_nonneg (lp_bounds (hE' y hyn)).1 (hw y hyn)
      rw [← hE' x hx] at hm
      obtain ⟨y, hy, e⟩ := List.mem_map.1 hm
      symm
      apply lmin_unique
      · exact List.mem_map.2 ⟨y, hy, by rw [e]⟩
      · intro z hz
        obtain ⟨y', hy', rfl⟩ := List.mem_map.1 hz
        apply Rat.neg_le_neg
        exact (lp_bounds (hE' x hx)).2 y' hy'
  · rw [(he x hx).2.2.1, (he x hx).2.2.2, Rat.neg_add, Rat.sub_eq_add_neg]

end spec

/-- the model's network as bare index lists, the `G` of `DAG` and `AEqs` -/
def preds (m : Model) (x : Nat) : List Nat := (m.task x).inputs.map (·.1)
/-- … and the `H` -/
def succs (m : Model) (x : Nat) : List Nat := (m.task x).outputs.map (·.1)

/-- every dependency is finish-to-start -/
def FSOnly (m : Model) : Prop :=
  ∀ t, t < m.nT → (∀ e ∈ (m.task t).inputs, e.2 = Dep.fs) ∧ (∀ e ∈ (m.task t).outputs, e.2 = Dep.fs)

/-- indices are in range and the input and output lists describe the same edges
(`(p, d) ∈ inputs t ↔ (t, d) ∈ outputs p`, see `GraphOK.mem_inputs`) -/
def GraphOK (m : Model) : Prop :=
  ∀ t, t < m.nT →
    (∀ e ∈ (m.task t).inputs, e.1 < m.nT ∧ (t, e.2) ∈ (m.task e.1).outputs) ∧
    (∀ e ∈ (m.task t).outputs, e.1 < m.nT ∧ (t, e.2) ∈ (m.task e.1).inputs)

/-- the dependency graph has no cycle: some rank strictly increases along every edge -/
def Acyclic (m : Model) : Prop :=
  ∃ rk : Nat → Nat, ∀ t, t < m.nT → ∀ e ∈ (m.task t).inputs, rk e.1 < rk t

instance (m : Model) : Decidable (FSOnly m) := by unfold FSOnly; infer_instance
instance (m : Model) : Decidable (GraphOK m) := by unfold GraphOK; infer_instance

theorem GraphOK.mem_inputs {m : Model} (h : GraphOK m) {t p : Nat} (ht : t < m.nT) (hp : p < m.nT)
    (d : Dep) : (p, d) ∈ (m.task t).inputs ↔ (t, d) ∈ (m.task p).outputs :=
  ⟨fun hi => ((h t ht).1 (p, d) hi).2, fun ho => ((h p hp).2 (t, d) ho).2⟩

theorem mem_preds {m : Model} {x p : Nat} : p ∈ preds m x ↔ ∃ d, (p, d) ∈ (m.task x).inputs := by
  simp [preds]

theorem mem_succs {m : Model} {x y : Nat} : y ∈ succs m x ↔ ∃ d, (y, d) ∈ (m.task x).outputs := by
  simp [succs]

theorem preds_map {α : Type} (m : Model) (x : Nat) (f : Nat → α) :
    (preds m x).map f = (m.task x).inputs.map fun e => f e.1 := by
  simp [preds, List.map_map, Function.comp_def]

theorem succs_map {α : Type} (m : Model) (x : Nat) (f : Nat → α) :
    (succs m x).map f = (m.task x).outputs.map fun e => f e.1 := by
  simp [succs, List.map_map, Function.comp_def]

theorem succs_eq_nil_iff {m : Model} {x : Nat} : succs m x = [] ↔ (m.task x).outputs = [] := by
  simp [succs]

theorem preds_eq_nil_iff {m : Model} {x : Nat} : preds m x = [] ↔ (m.task x).inputs = [] := by
  simp [preds]

theorem dag_of {m : Model} (hok : GraphOK m) (hac : Acyclic m) : DAG m.nT (preds m) (succs m) where
  G_lt x hx p hp :=
    let ⟨_, hd⟩ := mem_preds.1 hp
    ((hok x hx).1 _ hd).1
  H_lt x hx y hy :=
    let ⟨_, hd⟩ := mem_succs.1 hy
    ((hok x hx).2 _ hd).1
  cons x y hx hy := by
    rw [mem_preds, mem_succs]
    exact exists_congr fun d => hok.mem_inputs hy hx d
  acyc :=
    let ⟨rk, hrk⟩ := hac
    ⟨rk, fun x hx p hp => let ⟨_, hd⟩ := mem_preds.1 hp; hrk x hx _ hd⟩

/-- **The PERT/CPM equations** for the model's network at time `time` with remaining work
`l.rem` (only `l.rem` is read from `l`). -/
structure PertEqs (m : Model) (time : Rat) (l : Live) (est eft lst lft : Nat → Rat) (cpl : Rat) :
    Prop where
  /-- earliest start = the largest of `time` and the predecessors' `est + rem` -/
  est_eq : ∀ t, t < m.nT →
    est t = ((m.task t).inputs.map fun e => est e.1 + l.rem e.1).foldl max time
  /-- earliest finish = earliest start + own remaining work -/
  eft_eq : ∀ t, t < m.nT → eft t = est t + l.rem t
  /-- `cpl` is an upper bound of the earliest finishes of the tasks without successors … -/
  cpl_ge : ∀ t, t < m.nT → (m.task t).outputs = [] → eft t ≤ cpl
  /-- … and is attained by one of them -/
  cpl_at : ∃ t, t < m.nT ∧ (m.task t).outputs = [] ∧ eft t = cpl
  /-- latest finish = the smallest latest start among the successors, `cpl` without successors -/
  lft_eq : ∀ t, t < m.nT → lft t = lmin cpl ((m.task t).outputs.map fun e => lst e.1)
  /-- latest start = latest finish − own remaining work -/
  lst_eq : ∀ t, t < m.nT → lst t = lft t - l.rem t

theorem pertEqs_iff {m : Model} {time : Rat} {l : Live} {est eft lst lft : Nat → Rat} {cpl : Rat} :
    PertEqs m time l est eft lst lft cpl ↔
      AEqs m.nT (preds m) (succs m) l.rem time est eft lst lft cpl := by
  constructor
  · intro h
    refine ⟨?_, h.eft_eq, ?_, ?_, ?_, h.lst_eq⟩
    · intro x hx; rw [preds_map]; exact h.est_eq x hx
    · intro x hx h0; exact h.cpl_ge x hx (succs_eq_nil_iff.1 h0)
    · obtain ⟨x, hx, h0, h1⟩ := h.cpl_at; exact ⟨x, hx, succs_eq_nil_iff.2 h0, h1⟩
    · intro x hx; rw [succs_map]; exact h.lft_eq x hx
  · intro h
    refine ⟨?_, h.eft_eq, ?_, ?_, ?_, h.lst_eq⟩
    · intro x hx; rw [← preds_map m x (fun p => est p + l.rem p)]; exact h.est_eq x hx
    · intro x hx h0; exact h.cpl_ge x hx (succs_eq_nil_iff.2 h0)
    · obtain ⟨x, hx, h0, h1⟩ := h.cpl_at; exact ⟨x, hx, succs_eq_nil_iff.1 h0, h1⟩
    · intro x hx; rw [← succs_map m x lst]; exact h.lft_eq x hx

/-- `CritPath m est eft lst a b`: a chain of dependency edges from `a` to `b` on which every task
has zero slack and every task starts exactly when its predecessor on the chain finishes. -/
inductive CritPath (m : Model) (est eft lst : Nat → Rat) : Nat → Nat → Prop
  | single {x : Nat} : x < m.nT → lst x = est x → CritPath m est eft lst x x
  | snoc {a p x : Nat} (d : Dep) : CritPath m est eft lst a p → (p, d) ∈ (m.task x).inputs →
      x < m.nT → lst x = est x → est x = eft p → CritPath m est eft lst a x

/-! What `AEqs` gives on an acyclic network, read on the model's own link lists. -/

section model
variable {m : Model} {time : Rat} {l : Live} {est eft lst lft : Nat → Rat} {cpl : Rat}

theorem PertEqs.time_le_est (h : PertEqs m time l est eft lst lft cpl) {t : Nat} (ht : t < m.nT) :
    time ≤ est t :=
  (pertEqs_iff.1 h).time_le_est ht

theorem PertEqs.eft_le_cpl (hok : GraphOK m) (hac : Acyclic m) (hnn : ∀ t, t < m.nT → 0 ≤ l.rem t)
    (h : PertEqs m time l est eft lst lft cpl) : ∀ t, t < m.nT → eft t ≤ cpl :=
  (pertEqs_iff.1 h).eft_le_cpl (dag_of hok hac) hnn

theorem PertEqs.est_le_lst (hok : GraphOK m) (hac : Acyclic m)
    (h : PertEqs m time l est eft lst lft cpl) : ∀ t, t < m.nT → est t ≤ lst t :=
  (pertEqs_iff.1 h).est_le_lst (dag_of hok hac)

theorem PertEqs.unique (hok : GraphOK m) (hac : Acyclic m)
    {est' eft' lst' lft' : Nat → Rat} {cpl' : Rat} (h : PertEqs m time l est eft lst lft cpl)
    (h' : PertEqs m time l est' eft' lst' lft' cpl') :
    cpl = cpl' ∧ ∀ t, t < m.nT →
      est t = est' t ∧ eft t = eft' t ∧ lst t = lst' t ∧ lft t = lft' t :=
  (pertEqs_iff.1 h).unique (dag_of hok hac) (pertEqs_iff.1 h')

theorem PertEqs.crit_tail (h : PertEqs m time l est eft lst lft cpl) :
    ∃ t, t < m.nT ∧ (m.task t).outputs = [] ∧ eft t = cpl ∧ lst t = est t :=
  have ⟨t, ht, h0, he, hc⟩ := (pertEqs_iff.1 h).crit_tail
  ⟨t, ht, succs_eq_nil_iff.1 h0, he, hc⟩

theorem PertEqs.crit_to (hok : GraphOK m) (hac : Acyclic m) (hnn : ∀ t, t < m.nT → 0 ≤ l.rem t)
    (h : PertEqs m time l est eft lst lft cpl) :
    ∀ x, x < m.nT → lst x = est x →
      ∃ a, a < m.nT ∧ (m.task a).inputs = [] ∧ CritPath m est eft lst a x := by
  have hg := dag_of hok hac
  have ha := pertEqs_iff.1 h
  apply hg.induction
  intro x hx ih hc
  by_cases h0 : preds m x = []
  · exact ⟨x, hx, preds_eq_nil_iff.1 h0, .single hx hc⟩
  · obtain ⟨p, hp, hpc, hpe⟩ := ha.crit_pred hg hnn hx h0 hc
    obtain ⟨a, han, ha0, hch⟩ := ih p hp hpc
    obtain ⟨d, hd⟩ := mem_preds.1 hp
    exact ⟨a, han, ha0, .snoc d hch hd hx hc hpe⟩

theorem PertEqs.congr_rem {l' : Live} (hr : l'.rem = l.rem) (h : PertEqs m time l est eft lst lft cpl) :
    PertEqs m time l' est eft lst lft cpl := by
  refine ⟨?_, ?_, h.cpl_ge, h.cpl_at, h.lft_eq, ?_⟩
  · rw [hr]; exact h.est_eq
  · rw [hr]; exact h.eft_eq
  · rw [hr]; exact h.lst_eq

end model

/-! Nothing in the library rests on what follows; the names are end results of the development and stay. -/

theorem graphOK_iff (m : Model) :
    GraphOK m ↔
      (∀ t, t < m.nT → (∀ e ∈ (m.task t).inputs, e.1 < m.nT) ∧ (∀ e ∈ (m.task t).outputs, e.1 < m.nT)) ∧
      (∀ t p d, t < m.nT → p < m.nT → ((p, d) ∈ (m.task t).inputs ↔ (t, d) ∈ (m.task p).outputs)) := by
  constructor
  · intro h
    exact ⟨fun t ht => ⟨fun e he => ((h t ht).1 e he).1, fun e he => ((h t ht).2 e he).1⟩,
      fun t p d ht hp => h.mem_inputs ht hp d⟩
  · rintro ⟨h1, h2⟩ t ht
    refine ⟨fun e he => ⟨(h1 t ht).1 e he, ?_⟩, fun e he => ⟨(h1 t ht).2 e he, ?_⟩⟩
    · exact (h2 t e.1 e.2 ht ((h1 t ht).1 e he)).1 he
    · exact (h2 e.1 t e.2 ((h1 t ht).2 e he) ht).2 he

end PDesy.PertSpec
