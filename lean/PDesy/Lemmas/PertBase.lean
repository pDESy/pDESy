/-
  PDesy.Lemmas.PertBase — `update_PERT_data` (`pert`), what every argument about it starts from.

  One relaxation is "propose a pair (`fwdCand`, `bwdCand`) and store it at the target if the test
  accepts"; the two passes are wave loops (`Wave.wLoop`) from the start tables `fwdInit`, `bwdInit`;
  they read the live state through `rem` only and write nothing outside the task list.  `pert`
  recomputed on its own output gives the same as soon as a second forward pass does
  (`pert_idem_of_fwd`).  Last, the conditions of the specification on the link lists
  (`PertSpec.GraphOK`, `PertSpec.DAG`) in the form the lemmas on the passes take them.

  (The namespace is `PDesy.Idem`: `Idem.WF`, `Idem.FsSrc`, `Idem.fwdCand`, `Idem.bwdCand` and
  `Idem.fwdInit` occur under these names in statements of C10 and C15 and of what these rest on.)
-/
import PDesy.Lemmas.Wave
import PDesy.Lemmas.PertSpec

namespace PDesy
namespace Idem

open Wave Order

/-- dependency links stay inside the task list -/
def WF (m : Model) : Prop :=
  ∀ t, t < m.nT → (∀ e ∈ (m.task t).inputs, e.1 < m.nT) ∧ (∀ e ∈ (m.task t).outputs, e.1 < m.nT)

instance (m : Model) : Decidable (WF m) := by unfold WF; infer_instance

/-- task `t` has a finish-to-start successor (the only kind of link along which the forward
pass adds the remaining work of the source to an `est`) -/
def FsSrc (m : Model) (t : Nat) : Prop := ∃ e ∈ (m.task t).outputs, e.2 = .fs

instance (m : Model) (t : Nat) : Decidable (FsSrc m t) := by unfold FsSrc; infer_instance

variable (m : Model)

/-- the `(est, eft)` a forward relaxation proposes for the target of `e` -/
def fwdCand (l : Live) (p : Pert) (i : Nat) (e : Nat × Dep) : Rat × Rat :=
  match e.2 with
  | .fs => (p.est i + l.rem i, p.est i + l.rem i + l.rem e.1)
  | .ss => (p.est i, p.est i + l.rem e.1)
  | .ff => (p.est i, if p.eft i > p.est i + l.rem e.1 then p.eft i else p.est i + l.rem e.1)
  | .sf => (p.est i, if p.est i > p.est i + l.rem e.1 then p.est i else p.est i + l.rem e.1)

theorem fwdRelax_eq (l : Live) (p : Pert) (i : Nat) (e : Nat × Dep) :
    fwdRelax l p i e =
      if (fwdCand l p i e).1 ≥ p.est e.1 then
        { p with est := upd p.est e.1 (fwdCand l p i e).1, eft := upd p.eft e.1 (fwdCand l p i e).2 }
      else p := by
  obtain ⟨nx, d⟩ := e
  cases d <;> rfl

theorem fwdCand_fst_congr (l : Live) {p p' : Pert} (i : Nat) (e : Nat × Dep) (h : p'.est i = p.est i) :
    (fwdCand l p' i e).1 = (fwdCand l p i e).1 := by
  obtain ⟨nx, d⟩ := e
  cases d <;> simp only [fwdCand, h]

theorem fwdCand_snd_congr (l : Live) {p p' : Pert} (i : Nat) (e : Nat × Dep) (h : p'.est i = p.est i)
    (h2 : e.2 = .ff → p'.eft i = p.eft i) : (fwdCand l p' i e).2 = (fwdCand l p i e).2 := by
  obtain ⟨nx, d⟩ := e
  cases d <;> simp only [fwdCand, h, h2]

theorem fwdCand_fst_mono (l : Live) {p p' : Pert} (i : Nat) (e : Nat × Dep) (h : p.est i ≤ p'.est i) :
    (fwdCand l p i e).1 ≤ (fwdCand l p' i e).1 := by
  obtain ⟨nx, d⟩ := e
  cases d
  · exact Rat.add_le_add_right.2 h
  all_goals exact h

theorem fwdCand_ge (l : Live) (p : Pert) (i : Nat) (e : Nat × Dep) (h : e.2 = .fs → 0 ≤ l.rem i) :
    p.est i ≤ (fwdCand l p i e).1 := by
  obtain ⟨nx, d⟩ := e
  cases d
  · exact le_add_of_nonneg Rat.le_refl (h rfl)
  all_goals exact Rat.le_refl

theorem fwdRelax_rej (l : Live) (p : Pert) (i : Nat) (e : Nat × Dep)
    (h : ¬ (fwdCand l p i e).1 ≥ p.est e.1) : fwdRelax l p i e = p := by
  rw [fwdRelax_eq, if_neg h]

theorem fwdRelax_acc (l : Live) (p : Pert) (i : Nat) (e : Nat × Dep)
    (h : (fwdCand l p i e).1 ≥ p.est e.1) :
    (fwdRelax l p i e).est e.1 = (fwdCand l p i e).1 ∧
    (fwdRelax l p i e).eft e.1 = (fwdCand l p i e).2 := by
  rw [fwdRelax_eq, if_pos h]; exact ⟨upd_same .., upd_same ..⟩

theorem fwdRelax_other (l : Live) (p : Pert) (i : Nat) (e : Nat × Dep) {x : Nat} (h : x ≠ e.1) :
    (fwdRelax l p i e).est x = p.est x ∧ (fwdRelax l p i e).eft x = p.eft x := by
  rw [fwdRelax_eq]; split
  · exact ⟨upd_other _ _ _ _ h, upd_other _ _ _ _ h⟩
  · exact ⟨rfl, rfl⟩

theorem fwdRelax_cases (l : Live) (p : Pert) (i : Nat) (e : Nat × Dep) (x : Nat) :
    ((fwdRelax l p i e).est x = p.est x ∧ (fwdRelax l p i e).eft x = p.eft x) ∨
    (x = e.1 ∧ (fwdCand l p i e).1 ≥ p.est e.1 ∧ (fwdRelax l p i e).est x = (fwdCand l p i e).1 ∧
      (fwdRelax l p i e).eft x = (fwdCand l p i e).2) := by
  by_cases hx : x = e.1
  · by_cases h : (fwdCand l p i e).1 ≥ p.est e.1
    · exact Or.inr ⟨hx, h, hx ▸ fwdRelax_acc l p i e h⟩
    · rw [fwdRelax_rej l p i e h]; exact Or.inl ⟨rfl, rfl⟩
  · exact Or.inl (fwdRelax_other l p i e hx)

/-- two relaxations of the same link that take the same branch: at every task both change
nothing (at the target: both are rejected), or both are accepted into it -/
theorem fwdRelax_cases₂ (l : Live) (p p' : Pert) (i : Nat) (e : Nat × Dep)
    (h : (fwdCand l p' i e).1 ≥ p'.est e.1 ↔ (fwdCand l p i e).1 ≥ p.est e.1) (x : Nat) :
    ((x = e.1 → ¬ (fwdCand l p i e).1 ≥ p.est e.1) ∧
      ((fwdRelax l p i e).est x = p.est x ∧ (fwdRelax l p i e).eft x = p.eft x) ∧
      ((fwdRelax l p' i e).est x = p'.est x ∧ (fwdRelax l p' i e).eft x = p'.eft x)) ∨
    (x = e.1 ∧
      ((fwdRelax l p i e).est x = (fwdCand l p i e).1 ∧
        (fwdRelax l p i e).eft x = (fwdCand l p i e).2) ∧
      ((fwdRelax l p' i e).est x = (fwdCand l p' i e).1 ∧
        (fwdRelax l p' i e).eft x = (fwdCand l p' i e).2)) := by
  by_cases hx : x = e.1
  · by_cases ha : (fwdCand l p i e).1 ≥ p.est e.1
    · subst hx
      exact Or.inr ⟨rfl, fwdRelax_acc l p i e ha, fwdRelax_acc l p' i e (h.2 ha)⟩
    · rw [fwdRelax_rej l p i e ha, fwdRelax_rej l p' i e fun h' => ha (h.1 h')]
      exact Or.inl ⟨fun _ => ha, ⟨rfl, rfl⟩, ⟨rfl, rfl⟩⟩
  · exact Or.inl ⟨fun h' => absurd h' hx, fwdRelax_other l p i e hx, fwdRelax_other l p' i e hx⟩

theorem le_fwdRelax_est (l : Live) (p : Pert) (i : Nat) (e : Nat × Dep) (x : Nat) :
    p.est x ≤ (fwdRelax l p i e).est x := by
  rcases fwdRelax_cases l p i e x with ⟨h, _⟩ | ⟨rfl, ha, h, _⟩ <;> rw [h]
  · exact Rat.le_refl
  · exact ha

theorem fwdRelax_lst (l : Live) (p : Pert) (i : Nat) (e : Nat × Dep) :
    (fwdRelax l p i e).lst = p.lst ∧ (fwdRelax l p i e).lft = p.lft := by
  rw [fwdRelax_eq]; split <;> exact ⟨rfl, rfl⟩

/-! The backward relaxation is not the forward relaxation run backwards: reversing time
(`est ↦ −lft`, `eft ↦ −lst`) turns an SS link into an FF link, and the mirror image of `fwdCand` for
FF is `(lst, lft) = (min (lst o) (lft o − rem), lft o)`, not the `(lst o, lst o + rem)` of `bwdCand`
for SS; even for FS the two passes read different fields of the source (`est i + rem i` against
`lst o`).  Only on finish-to-start networks, where `lst = lft − rem` holds of every task that is
read, are the two passes one (`PertSpec.gRelax`). -/

/-- the `(lst, lft)` a backward relaxation proposes for the source of `e` -/
def bwdCand (l : Live) (p : Pert) (o : Nat) (e : Nat × Dep) : Rat × Rat :=
  match e.2 with
  | .fs => (p.lst o - l.rem e.1, p.lst o)
  | .ss => (p.lst o, p.lst o + l.rem e.1)
  | .ff => (p.lst o, if p.lft o < p.lst o + l.rem e.1 then p.lft o else p.lst o + l.rem e.1)
  | .sf => (if p.lft o < p.lst o then p.lft o else p.lst o, p.lst o + l.rem e.1)

theorem bwdRelax_eq (l : Live) (p : Pert) (o : Nat) (e : Nat × Dep) :
    bwdRelax l p o e =
      if p.done e.1 = false ∨ p.lft e.1 ≥ (bwdCand l p o e).2 then
        { p with lst := upd p.lst e.1 (bwdCand l p o e).1, lft := upd p.lft e.1 (bwdCand l p o e).2,
                 done := upd p.done e.1 true }
      else p := by
  obtain ⟨pv, d⟩ := e
  cases d <;> rfl

theorem bwdRelax_est (l : Live) (p : Pert) (o : Nat) (e : Nat × Dep) :
    (bwdRelax l p o e).est = p.est ∧ (bwdRelax l p o e).eft = p.eft := by
  rw [bwdRelax_eq]; split <;> exact ⟨rfl, rfl⟩

theorem bwdRelax_rej (l : Live) (p : Pert) (o : Nat) (e : Nat × Dep)
    (h : ¬ (p.done e.1 = false ∨ p.lft e.1 ≥ (bwdCand l p o e).2)) : bwdRelax l p o e = p := by
  rw [bwdRelax_eq, if_neg h]

theorem bwdRelax_acc (l : Live) (p : Pert) (o : Nat) (e : Nat × Dep)
    (h : p.done e.1 = false ∨ p.lft e.1 ≥ (bwdCand l p o e).2) :
    (bwdRelax l p o e).lst e.1 = (bwdCand l p o e).1 ∧
    (bwdRelax l p o e).lft e.1 = (bwdCand l p o e).2 ∧ (bwdRelax l p o e).done e.1 = true := by
  rw [bwdRelax_eq, if_pos h]; exact ⟨upd_same .., upd_same .., upd_same ..⟩

theorem bwdRelax_other (l : Live) (p : Pert) (o : Nat) (e : Nat × Dep) {x : Nat} (h : x ≠ e.1) :
    (bwdRelax l p o e).lst x = p.lst x ∧ (bwdRelax l p o e).lft x = p.lft x ∧
    (bwdRelax l p o e).done x = p.done x := by
  rw [bwdRelax_eq]; split
  · exact ⟨upd_other _ _ _ _ h, upd_other _ _ _ _ h, upd_other _ _ _ _ h⟩
  · exact ⟨rfl, rfl, rfl⟩

/-- `fwdRelax_cases₂` for the backward relaxation -/
theorem bwdRelax_cases₂ (l : Live) (p p' : Pert) (o : Nat) (e : Nat × Dep)
    (h : (p'.done e.1 = false ∨ p'.lft e.1 ≥ (bwdCand l p' o e).2) ↔
      (p.done e.1 = false ∨ p.lft e.1 ≥ (bwdCand l p o e).2)) (x : Nat) :
    ((x = e.1 → ¬ (p.done e.1 = false ∨ p.lft e.1 ≥ (bwdCand l p o e).2)) ∧
      ((bwdRelax l p o e).lst x = p.lst x ∧ (bwdRelax l p o e).lft x = p.lft x ∧
        (bwdRelax l p o e).done x = p.done x) ∧
      ((bwdRelax l p' o e).lst x = p'.lst x ∧ (bwdRelax l p' o e).lft x = p'.lft x ∧
        (bwdRelax l p' o e).done x = p'.done x)) ∨
    (x = e.1 ∧
      ((bwdRelax l p o e).lst x = (bwdCand l p o e).1 ∧ (bwdRelax l p o e).lft x = (bwdCand l p o e).2 ∧
        (bwdRelax l p o e).done x = true) ∧
      ((bwdRelax l p' o e).lst x = (bwdCand l p' o e).1 ∧
        (bwdRelax l p' o e).lft x = (bwdCand l p' o e).2 ∧ (bwdRelax l p' o e).done x = true)) := by
  by_cases hx : x = e.1
  · by_cases ha : p.done e.1 = false ∨ p.lft e.1 ≥ (bwdCand l p o e).2
    · subst hx
      exact Or.inr ⟨rfl, bwdRelax_acc l p o e ha, bwdRelax_acc l p' o e (h.2 ha)⟩
    · rw [bwdRelax_rej l p o e ha, bwdRelax_rej l p' o e fun h' => ha (h.1 h')]
      exact Or.inl ⟨fun _ => ha, ⟨rfl, rfl, rfl⟩, ⟨rfl, rfl, rfl⟩⟩
  · exact Or.inl ⟨fun h' => absurd h' hx, bwdRelax_other l p o e hx, bwdRelax_other l p' o e hx⟩

/-- the table the forward pass starts from -/
def fwdInit (m : Model) (time : Rat) (l : Live) : Pert :=
  { est := fun t => if t < m.nT then time else l.est t
    eft := fun t => if t < m.nT && (m.task t).inputs.isEmpty then time + l.rem t else l.eft t
    lst := l.lst, lft := l.lft }

section
variable {m} {time : Rat} {l l' : Live} {t : Nat}

theorem fwdInit_est_lt (ht : t < m.nT) : (fwdInit m time l).est t = time := if_pos ht

theorem fwdInit_est_out (ht : ¬ t < m.nT) : (fwdInit m time l).est t = l.est t := if_neg ht

theorem fwdInit_eft_head (ht : t < m.nT) (h0 : (m.task t).inputs.isEmpty = true) :
    (fwdInit m time l).eft t = time + l.rem t :=
  if_pos (by rw [h0, decide_eq_true ht]; rfl)

theorem fwdInit_eft_other (h : ¬ (t < m.nT ∧ (m.task t).inputs.isEmpty = true)) :
    (fwdInit m time l).eft t = l.eft t :=
  if_neg (by simpa using h)

theorem fwdInit_est_congr (h : ∀ t, ¬ t < m.nT → l'.est t = l.est t) :
    (fwdInit m time l').est = (fwdInit m time l).est := by
  funext t
  by_cases ht : t < m.nT
  · rw [fwdInit_est_lt ht, fwdInit_est_lt ht]
  · rw [fwdInit_est_out ht, fwdInit_est_out ht, h t ht]

theorem fwdInit_eft_head_congr (hr : l'.rem = l.rem) (ht : t < m.nT)
    (h0 : (m.task t).inputs.isEmpty = true) : (fwdInit m time l').eft t = (fwdInit m time l).eft t := by
  rw [fwdInit_eft_head ht h0, fwdInit_eft_head ht h0, hr]

end

/-- the table the backward pass starts from (with the `pertReset` repair) -/
def bwdInit (m : Model) (l : Live) (cpl : Rat) (p : Pert) : Pert :=
  { est := p.est, eft := p.eft
    lft := fun t => if (tails m).contains t then cpl else (if t < m.nT then -1 else p.lft t)
    lst := fun t => if (tails m).contains t then cpl - l.rem t else (if t < m.nT then -1 else p.lst t)
    done := fun _ => false }

section
variable {m} {l : Live} {cpl : Rat} {p : Pert} {t : Nat}

theorem bwdInit_lft_tail (h : t ∈ tails m) : (bwdInit m l cpl p).lft t = cpl :=
  if_pos (List.contains_iff_mem.2 h)

theorem bwdInit_lst_tail (h : t ∈ tails m) : (bwdInit m l cpl p).lst t = cpl - l.rem t :=
  if_pos (List.contains_iff_mem.2 h)

theorem bwdInit_out (ht : ¬ t < m.nT) :
    (bwdInit m l cpl p).lst t = p.lst t ∧ (bwdInit m l cpl p).lft t = p.lft t := by
  have h : (tails m).contains t = false :=
    Bool.eq_false_iff.2 fun hc => ht (mem_tails.1 (List.contains_iff_mem.1 hc)).1
  simp only [bwdInit, h, Bool.false_eq_true, if_false, if_neg ht, and_self]

theorem bwdInit_congr {l' : Live} {p' : Pert} (cpl : Rat) (hr : l'.rem = l.rem) (h1 : p'.est = p.est)
    (h2 : p'.eft = p.eft) (h3 : ∀ t, ¬ t < m.nT → p'.lst t = p.lst t ∧ p'.lft t = p.lft t) :
    bwdInit m l' cpl p' = bwdInit m l cpl p := by
  have e1 : ∀ t, (if t < m.nT then (-1 : Rat) else p'.lst t) = if t < m.nT then -1 else p.lst t :=
    fun t => ite_congr rfl (fun _ => rfl) fun ht => (h3 t ht).1
  have e2 : ∀ t, (if t < m.nT then (-1 : Rat) else p'.lft t) = if t < m.nT then -1 else p.lft t :=
    fun t => ite_congr rfl (fun _ => rfl) fun ht => (h3 t ht).2
  simp only [bwdInit, h1, h2, hr, e1, e2]

end

theorem pertFwd_eq (time : Rat) (l : Live) :
    pertFwd m time l =
      wLoop (canonSet m.nT) (outs m) (·.1) (fwdRelax l) (m.nT + 1) (heads m) (fwdInit m time l) :=
  fwdLoop_wLoop m l _ _ _

theorem pertFwdOrd_eq (ord : List Nat → List Nat) (time : Rat) (l : Live) :
    pertFwdOrd m ord time l =
      wLoop ord (outs m) (·.1) (fwdRelax l) (m.nT + 1) (ord (heads m)) (fwdInit m time l) :=
  fwdLoopOrd_wLoop m ord l _ _ _

theorem pertBwd_eq (l : Live) (p : Pert) :
    pertBwd m l pertReset p =
      (wLoop (canonSet m.nT) (ins m) (·.1) (bwdRelax l) (m.nT + 1) (tails m)
        (bwdInit m l (maxList l.cpl ((tails m).map p.eft)) p),
        maxList l.cpl ((tails m).map p.eft)) := by
  rw [← bwdLoop_wLoop]; rfl

theorem pertBwdOrd_eq (ord : List Nat → List Nat) (l : Live) (p : Pert) :
    pertBwdOrd m ord l pertReset p =
      (wLoop ord (ins m) (·.1) (bwdRelax l) (m.nT + 1) (ord (tails m))
        (bwdInit m l (maxList l.cpl ((tails m).map p.eft)) p),
        maxList l.cpl ((tails m).map p.eft)) := by
  rw [← bwdLoopOrd_wLoop]; rfl

/-- `pert` with the pair the backward pass returns taken apart by projections -/
theorem pert_eq (time : Nat) (l : Live) :
    pert m time l =
      { l with
        est := (pertBwd m l pertReset (pertFwd m (time : Rat) l)).1.est
        eft := (pertBwd m l pertReset (pertFwd m (time : Rat) l)).1.eft
        lst := (pertBwd m l pertReset (pertFwd m (time : Rat) l)).1.lst
        lft := (pertBwd m l pertReset (pertFwd m (time : Rat) l)).1.lft
        cpl := (pertBwd m l pertReset (pertFwd m (time : Rat) l)).2 } := by
  unfold pert; simp only [tabN_eq]

theorem pertOrd_eq (ord : List Nat → List Nat) (time : Nat) (l : Live) :
    pertOrd m ord time l =
      { l with
        est := (pertBwdOrd m ord l pertReset (pertFwdOrd m ord time l)).1.est
        eft := (pertBwdOrd m ord l pertReset (pertFwdOrd m ord time l)).1.eft
        lst := (pertBwdOrd m ord l pertReset (pertFwdOrd m ord time l)).1.lst
        lft := (pertBwdOrd m ord l pertReset (pertFwdOrd m ord time l)).1.lft
        cpl := (pertBwdOrd m ord l pertReset (pertFwdOrd m ord time l)).2 } := by
  unfold pertOrd; simp only [tabN_eq]

theorem fwdRelax_rem {l l' : Live} (h : l'.rem = l.rem) : fwdRelax l' = fwdRelax l := by
  funext p i e
  simp only [fwdRelax, h]

theorem bwdRelax_rem {l l' : Live} (h : l'.rem = l.rem) : bwdRelax l' = bwdRelax l := by
  funext p i e
  simp only [bwdRelax, h]

/-- `Wave.wLoop_pair` for two forward passes on the same remaining work -/
theorem pertFwd_pair {l l' : Live} (hr : l'.rem = l.rem) (time time' : Rat) (S : Pert → Pert → Prop)
    (G : Pert → Pert → Nat → Prop)
    (hstep : ∀ p p' i e, S p p' → i < m.nT → G p p' i → e ∈ (m.task i).outputs →
      S (fwdRelax l p i e) (fwdRelax l p' i e) ∧ G (fwdRelax l p i e) (fwdRelax l p' i e) e.1 ∧
      ∀ t, G p p' t → G (fwdRelax l p i e) (fwdRelax l p' i e) t)
    (hS : S (fwdInit m time l) (fwdInit m time' l'))
    (hW : ∀ i ∈ heads m, G (fwdInit m time l) (fwdInit m time' l') i) :
    S (pertFwd m time l) (pertFwd m time' l') := by
  rw [pertFwd_eq, pertFwd_eq, fwdRelax_rem hr]
  exact (wLoop_pair (ordOK_canon _) _ _ S G hstep _ _ _ _ hS
    fun i hi => ⟨heads_lt m i hi, hW i hi⟩).1

theorem pert_with_comp (time : Nat) (l : Live) (a : Nat → CS) (b : Nat → Option Nat) :
    pert m time { l with cstate := a, placed := b } =
      { pert m time l with cstate := a, placed := b } := by
  rw [pert_eq, pert_eq, pertFwd_eq, pertFwd_eq, pertBwd_eq, pertBwd_eq,
    fwdRelax_rem (l := l) (l' := { l with cstate := a, placed := b }) rfl,
    bwdRelax_rem (l := l) (l' := { l with cstate := a, placed := b }) rfl]
  rfl

theorem fwd_out {ord : List Nat → List Nat} (ho : OrdOK m.nT ord) (hwf : WF m) (l : Live)
    (fuel : Nat) (W : List Nat) (p : Pert) (hW : ∀ i ∈ W, i < m.nT) :
    (∀ t, ¬ t < m.nT → (wLoop ord (outs m) (·.1) (fwdRelax l) fuel W p).est t = p.est t ∧
      (wLoop ord (outs m) (·.1) (fwdRelax l) fuel W p).eft t = p.eft t) ∧
    (wLoop ord (outs m) (·.1) (fwdRelax l) fuel W p).lst = p.lst ∧
    (wLoop ord (outs m) (·.1) (fwdRelax l) fuel W p).lft = p.lft :=
  ⟨fun t ht => Prod.mk.inj (wLoop_out ho _ (fun q x => (q.est x, q.eft x))
      (fun q i e hi he => ⟨(hwf i hi).2 e he, fun x hx => by
        rw [(fwdRelax_other l q i e hx).1, (fwdRelax_other l q i e hx).2]⟩) fuel W p hW t ht),
    wLoop_keep _ (·.lst) (fun q i e => (fwdRelax_lst l q i e).1) fuel W p,
    wLoop_keep _ (·.lft) (fun q i e => (fwdRelax_lst l q i e).2) fuel W p⟩

theorem bwd_out {ord : List Nat → List Nat} (ho : OrdOK m.nT ord) (hwf : WF m) (l : Live)
    (fuel : Nat) (W : List Nat) (p : Pert) (hW : ∀ i ∈ W, i < m.nT) :
    (∀ t, ¬ t < m.nT → (wLoop ord (ins m) (·.1) (bwdRelax l) fuel W p).lst t = p.lst t ∧
      (wLoop ord (ins m) (·.1) (bwdRelax l) fuel W p).lft t = p.lft t) ∧
    (wLoop ord (ins m) (·.1) (bwdRelax l) fuel W p).est = p.est ∧
    (wLoop ord (ins m) (·.1) (bwdRelax l) fuel W p).eft = p.eft :=
  ⟨fun t ht => Prod.mk.inj (wLoop_out ho _ (fun q x => (q.lst x, q.lft x))
      (fun q o e ho' he => ⟨(hwf o ho').1 e he, fun x hx => by
        rw [(bwdRelax_other l q o e hx).1, (bwdRelax_other l q o e hx).2.1]⟩) fuel W p hW t ht),
    wLoop_keep _ (·.est) (fun q o e => (bwdRelax_est l q o e).1) fuel W p,
    wLoop_keep _ (·.eft) (fun q o e => (bwdRelax_est l q o e).2) fuel W p⟩

theorem pertFwd_out (hwf : WF m) (time : Rat) (l : Live) :
    (∀ t, ¬ t < m.nT → (pertFwd m time l).est t = l.est t ∧ (pertFwd m time l).eft t = l.eft t) ∧
    (pertFwd m time l).lst = l.lst ∧ (pertFwd m time l).lft = l.lft := by
  rw [pertFwd_eq]
  obtain ⟨h1, h2, h3⟩ := fwd_out m (ordOK_canon _) hwf l (m.nT + 1) (heads m) (fwdInit m time l)
    (heads_lt m)
  exact ⟨fun t ht => ⟨(h1 t ht).1.trans (fwdInit_est_out ht),
    (h1 t ht).2.trans (fwdInit_eft_other fun h => ht h.1)⟩, h2, h3⟩

theorem pertOrd_out {ord : List Nat → List Nat} (ho : OrdOK m.nT ord) (hwf : WF m)
    (time : Nat) (l : Live) (x : Nat) (hnx : ¬ x < m.nT) :
    (pertOrd m ord time l).est x = l.est x ∧ (pertOrd m ord time l).eft x = l.eft x ∧
    (pertOrd m ord time l).lst x = l.lst x ∧ (pertOrd m ord time l).lft x = l.lft x := by
  obtain ⟨f1, f2, f3⟩ := fwd_out m ho hwf l (m.nT + 1) (ord (heads m)) (fwdInit m time l)
    (fun i hi => ((ho _ i).1 hi).1)
  obtain ⟨b1, b2, b3⟩ := bwd_out m ho hwf l (m.nT + 1) (ord (tails m))
    (bwdInit m l (maxList l.cpl ((tails m).map (pertFwdOrd m ord time l).eft)) (pertFwdOrd m ord time l))
    (fun i hi => ((ho _ i).1 hi).1)
  rw [← pertFwdOrd_eq] at f1 f2 f3
  rw [pertOrd_eq, pertBwdOrd_eq]
  exact ⟨(congrFun b2 x).trans (((f1 x hnx).1).trans (fwdInit_est_out hnx)),
    (congrFun b3 x).trans (((f1 x hnx).2).trans (fwdInit_eft_other fun h => hnx h.1)),
    ((b1 x hnx).1.trans (bwdInit_out hnx).1).trans (congrFun f2 x),
    ((b1 x hnx).2.trans (bwdInit_out hnx).2).trans (congrFun f3 x)⟩

theorem pert_out (hwf : WF m) (time : Nat) (l : Live) (t : Nat) (ht : ¬ t < m.nT) :
    (pert m time l).est t = l.est t ∧ (pert m time l).eft t = l.eft t ∧
    (pert m time l).lst t = l.lst t ∧ (pert m time l).lft t = l.lft t := by
  rw [← pertOrd_canon]; exact pertOrd_out m (ordOK_canon _) hwf time l t ht

theorem pert_est_eft (hwf : WF m) (time : Nat) (l : Live) :
    (pert m time l).est = (pertFwd m (time : Rat) l).est ∧
    (pert m time l).eft = (pertFwd m (time : Rat) l).eft := by
  obtain ⟨-, b2, b3⟩ := bwd_out m (ordOK_canon _) hwf l (m.nT + 1) (tails m)
    (bwdInit m l (maxList l.cpl ((tails m).map (pertFwd m (time : Rat) l).eft)) (pertFwd m (time : Rat) l))
    (tails_lt m)
  rw [pert_eq, pertBwd_eq]
  exact ⟨b2, b3⟩

theorem pert_cpl (time : Nat) (l : Live) :
    (pert m time l).cpl = maxList l.cpl ((tails m).map (pertFwd m (time : Rat) l).eft) := rfl

/-- a repeatable forward pass is enough: the backward pass starts from nothing but `est` and `eft`
(`pertReset`) -/
theorem pert_idem_of_fwd (hwf : WF m) (time : Nat) (l : Live)
    (hagain : ∀ l' : Live, l'.rem = l.rem →
      (∀ t, ¬ t < m.nT → l'.est t = (pertFwd m (time : Rat) l).est t) →
      l'.eft = (pertFwd m (time : Rat) l).eft →
      (pertFwd m (time : Rat) l').est = (pertFwd m (time : Rat) l).est ∧
      (pertFwd m (time : Rat) l').eft = (pertFwd m (time : Rat) l).eft) :
    pert m time (pert m time l) = pert m time l := by
  -- the two passes return the same pair; the other fields are those of `l` in both
  suffices h : pertBwd m (pert m time l) pertReset (pertFwd m (time : Rat) (pert m time l)) =
      pertBwd m l pertReset (pertFwd m (time : Rat) l) by
    rw [pert_eq m time (pert m time l), h, pert_eq m time l]
  obtain ⟨fe, ff⟩ := pert_est_eft m hwf time l
  obtain ⟨-, hl, hL⟩ := pertFwd_out m hwf time l
  obtain ⟨-, hl', hL'⟩ := pertFwd_out m hwf time (pert m time l)
  have hfw := hagain (pert m time l) rfl (fun t _ => congrFun fe t) ff
  have hcpl : maxList (pert m time l).cpl ((tails m).map (pertFwd m (time : Rat) (pert m time l)).eft) =
      maxList l.cpl ((tails m).map (pertFwd m (time : Rat) l).eft) := by
    rw [hfw.2, pert_cpl]; exact PertSpec.maxList_idem _ _
  rw [pertBwd_eq, pertBwd_eq, hcpl, bwdRelax_rem (show (pert m time l).rem = l.rem from rfl)]
  congr 2
  apply bwdInit_congr _ rfl hfw.1 hfw.2
  intro t ht
  obtain ⟨_, _, o3, o4⟩ := pert_out m hwf time l t ht
  exact ⟨by rw [hl', hl]; exact o3, by rw [hL', hL]; exact o4⟩

end Idem

namespace PertSpec
open Wave Idem

theorem GraphOK.wf {m : Model} (h : GraphOK m) : WF m := fun t ht =>
  ⟨fun e he => ((h t ht).1 e he).1, fun e he => ((h t ht).2 e he).1⟩

/-- the cover `Wave.all_evs` asks for -/
theorem GraphOK.head_or_target {m : Model} (h : GraphOK m) (x : Nat) (hx : x < m.nT) :
    x ∈ heads m ∨ ∃ i, i < m.nT ∧ ∃ e ∈ outs m i, e.1 = x :=
  if h0 : (m.task x).inputs = [] then .inl (mem_heads.2 ⟨hx, h0⟩) else
    let ⟨e, he⟩ := List.exists_mem_of_ne_nil _ h0
    .inr ⟨e.1, ((h x hx).1 e he).1, _, ((h x hx).1 e he).2, rfl⟩

theorem GraphOK.tail_or_source {m : Model} (h : GraphOK m) (x : Nat) (hx : x < m.nT) :
    x ∈ tails m ∨ ∃ o, o < m.nT ∧ ∃ e ∈ ins m o, e.1 = x :=
  if h0 : (m.task x).outputs = [] then .inl (mem_tails.2 ⟨hx, h0⟩) else
    let ⟨e, he⟩ := List.exists_mem_of_ne_nil _ h0
    .inr ⟨e.1, ((h x hx).2 e he).1, _, ((h x hx).2 e he).2, rfl⟩

theorem IsDepth.ranked {n : Nat} {G H : Nat → List Nat} {d : Nat → Nat} (hd : IsDepth n G d)
    (hG : ∀ x, x < n → ∀ p ∈ G x, p < n) (hH : ∀ x, x < n → ∀ y ∈ H x, y < n)
    (hc : ∀ x y, x < n → y < n → (x ∈ G y ↔ y ∈ H x)) : Ranked n H id d := fun t ht =>
  ⟨hd.lt hG t ht, fun y hy =>
    ⟨hH t ht y hy, hd.edge y (hH t ht y hy) t ((hc t y ht (hH t ht y hy)).2 hy)⟩⟩

theorem DAG.ranked {n : Nat} {G H : Nat → List Nat} (h : DAG n G H) : ∃ rk, Ranked n H id rk :=
  let ⟨d, hd⟩ := exists_depth h.G_lt h.acyc
  ⟨d, hd.ranked h.G_lt h.H_lt h.cons⟩

/-- a model with a task has a tail: a task of depth `0` in the reversed graph -/
theorem tails_ne_nil {m : Model} (hg : DAG m.nT (preds m) (succs m)) (hn : 0 < m.nT) : tails m ≠ [] := by
  obtain ⟨d', hd'⟩ := exists_depth hg.symm.G_lt hg.symm.acyc
  obtain ⟨y, hy, hdy⟩ := hd'.down hg.symm.G_lt (d' 0) 0 hn rfl 0 (Nat.zero_le _)
  refine List.ne_nil_of_mem (mem_tails.2 ⟨hy, succs_eq_nil_iff.1 (Classical.byContradiction fun hne => ?_)⟩)
  obtain ⟨p, _, hdp⟩ := hd'.pred y hy hne
  exact Nat.succ_ne_zero _ (hdp.symm.trans hdy)

end PertSpec
end PDesy
