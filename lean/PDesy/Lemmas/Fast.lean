/-
  PDesy.Lemmas.Fast — the phases, the loop and the traces with the tabulation as a parameter.

  Every phase ends in `tabN n f = readArr (mkArr n f) f`, which keeps compiled code linear.  The
  kernel gains nothing from it (the array holds unevaluated terms; what is shared is shared by the
  kernel's cache either way) and pays for every read: `Array.getInternal → List.get` on a `Fin` runs
  through the compiled matcher, five unfoldings per list cell, and that is most of what a run of
  `simulate` costs in `decide +kernel`.  So here are the definitions that contain `tabN` or call one
  that does, word for word, with `tab` in its place: at `tab := tabN` they are the model's functions
  (`update_tabN`, …), at `tab := noTab` they are equal to them by `tabN_eq` (`simulate_fast`, …), and
  the run lemmas of the example models evaluate that instance:
  `simp only [Fast.simulate_fast]; decide +kernel`.
-/
import PDesy.Model.Trace

namespace PDesy.Fast

section
variable (tab : {α : Type} → Nat → (Nat → α) → Nat → α)

def chkFinishedOrd (m : Model) (order : List Nat) (l : Live) : Live :=
  let r := finishClosure m order (m.nT + 1) l
  { r with tstate := tab m.nT r.tstate, rem := tab m.nT r.rem,
           allocW := tab m.nT r.allocW, allocF := tab m.nT r.allocF,
           wstate := tab m.nW r.wstate, wasg := tab m.nW r.wasg,
           fstate := tab m.nF r.fstate, fasg := tab m.nF r.fasg }

def chkFinished (m : Model) (l : Live) : Live := chkFinishedOrd tab m (List.range m.nT) l

def compCheck (m : Model) (l : Live) : Live :=
  { l with cstate := tab m.nC fun c => if c < m.nC then compNext m l c else l.cstate c }

def chkRemoveOrd (m : Model) (order : List Nat) (l : Live) : Live :=
  let r := (order.filter (removeCand m l)).foldl removeOne l
  { r with wpComps := tab m.nWp r.wpComps, placed := tab m.nC r.placed }

def chkRemove (m : Model) (l : Live) : Live := chkRemoveOrd tab m (List.range m.nC) l

def chkReady (m : Model) (l : Live) : Live :=
  { l with tstate := tab m.nT fun t =>
      if t < m.nT && l.tstate t == .none && readyGate m l.tstate t then .ready else l.tstate t }

def pert (m : Model) (time : Nat) (l : Live) : Live :=
  let pf := pertFwd m (time : Rat) l
  let (pb, cpl) := pertBwd m l pertReset pf
  { l with est := tab m.nT pb.est, eft := tab m.nT pb.eft,
           lst := tab m.nT pb.lst, lft := tab m.nT pb.lft, cpl := cpl }

def absenceSet (m : Model) (time : Nat) (working : Bool) (l : Live) : Live :=
  { l with
    wstate := tab m.nW fun w =>
      if w < m.nW then
        (if working then resState ((m.worker w).absence.contains time) (l.wasg w) else .absence)
      else l.wstate w
    fstate := tab m.nF fun f =>
      if f < m.nF then
        (if working then resState ((m.fac f).absence.contains time) (l.fasg f) else .absence)
      else l.fstate f }

def allocate (m : Model) (lg : Logs) (rule : TaskRule) (l : Live) : Live :=
  let cands := (List.range m.nT).filter fun t => l.tstate t == .ready || l.tstate t == .working
  let sorted := sortTasks m l lg rule cands
  let free := (List.range m.nW).filter fun w => l.wstate w == .free
  let r := (sorted.foldl (allocTask m) { l := l, free := free }).l
  { r with allocW := tab m.nT r.allocW, allocF := tab m.nT r.allocF,
           wasg := tab m.nW r.wasg, fasg := tab m.nF r.fasg,
           placed := tab m.nC r.placed, wpComps := tab m.nWp r.wpComps }

def chkWorkingOrd (m : Model) (order : List Nat) (l : Live) : Live :=
  let r := (order.filter (workingTarget m l)).foldl (startOne m) l
  { r with tstate := tab m.nT r.tstate, wstate := tab m.nW r.wstate, fstate := tab m.nF r.fstate }

def chkWorking (m : Model) (l : Live) : Live := chkWorkingOrd tab m (List.range m.nT) l

def cost (m : Model) (working : Bool) (l : Live) (lg : Logs) : Logs :=
  { lg with
    wCost := tab m.nW fun w => if w < m.nW then lg.wCost w ++ [wCostNow m l working w] else lg.wCost w
    fCost := tab m.nF fun f => if f < m.nF then lg.fCost f ++ [fCostNow m l working f] else lg.fCost f
    teamCost := tab m.nTeam fun tm =>
      if tm < m.nTeam then lg.teamCost tm ++ [teamCostNow m l working tm] else lg.teamCost tm
    wpCost := tab m.nWp fun p =>
      if p < m.nWp then lg.wpCost p ++ [wpCostNow m l working p] else lg.wpCost p
    orgCost := lg.orgCost ++ [orgCostNow m l working]
    projCost := lg.projCost ++ [orgCostNow m l working] }

def perform (m : Model) (working autoFlag : Bool) (l : Live) : Live :=
  { l with rem := tab m.nT fun t =>
      if t < m.nT && l.tstate t == .working && (working || (autoFlag && (m.task t).isAuto))
      then l.rem t - contrib m l t else l.rem t }

def record (m : Model) (working : Bool) (l : Live) (lg : Logs) : Logs :=
  { lg with
    tState := tab m.nT fun t => if t < m.nT then lg.tState t ++ [showT working (l.tstate t)] else lg.tState t
    tRem := tab m.nT fun t => if t < m.nT then lg.tRem t ++ [l.rem t] else lg.tRem t
    tAllocW := tab m.nT fun t => if t < m.nT then lg.tAllocW t ++ [l.allocW t] else lg.tAllocW t
    tAllocF := tab m.nT fun t => if t < m.nT then lg.tAllocF t ++ [l.allocF t] else lg.tAllocF t
    wState := tab m.nW fun w => if w < m.nW then lg.wState w ++ [showR working (l.wstate w)] else lg.wState w
    wAsg := tab m.nW fun w => if w < m.nW then lg.wAsg w ++ [l.wasg w] else lg.wAsg w
    fState := tab m.nF fun f => if f < m.nF then lg.fState f ++ [showR working (l.fstate f)] else lg.fState f
    fAsg := tab m.nF fun f => if f < m.nF then lg.fAsg f ++ [l.fasg f] else lg.fAsg f
    wpPlaced := tab m.nWp fun p => if p < m.nWp then lg.wpPlaced p ++ [l.wpComps p] else lg.wpPlaced p
    cState := tab m.nC fun c => if c < m.nC then lg.cState c ++ [showC working (l.cstate c)] else lg.cState c
    cPlaced := tab m.nC fun c => if c < m.nC then lg.cPlaced c ++ [l.placed c] else lg.cPlaced c }

def initLive (m : Model) (both : Bool) (l : Live) : Live :=
  { l with
    tstate := tab m.nT fun t => if both && decide ((m.task t).prog ≥ 1) then TS.finished else TS.none
    rem := tab m.nT fun t => (m.task t).work * (1 - (m.task t).prog)
    est := fun _ => 0
    eft := fun _ => 0
    lst := fun _ => -1
    lft := fun _ => -1
    allocW := fun _ => []
    allocF := fun _ => []
    wstate := fun _ => RS.free
    wasg := fun _ => []
    fstate := fun _ => RS.free
    fasg := fun _ => []
    wpComps := fun _ => [] }

def initComps (m : Model) (l : Live) : Live :=
  let l1 := { l with
    cstate := fun _ => CS.none
    placed := fun _ => Option.none }
  compCheck tab m l1

def initProject (m : Model) (stateInfo logInfo : Bool) (s : St) : St :=
  let s1 : St := if logInfo then
      { s with time := 0, status := .none, mode := .none, logs := clearLogs m s.logs } else s
  if stateInfo then
    let l1 := initLive tab m logInfo s1.live
    let l2 := { l1 with cpl := 0 }
    let l3 := pert tab m 0 l2
    let l4 := chkReady tab m l3
    { s1 with live := initComps tab m l4 }
  else s1

def update (m : Model) (time : Nat) (l : Live) : Live :=
  pert tab m time (compCheck tab m (chkReady tab m (chkRemove tab m (compCheck tab m (chkFinished tab m l)))))

def stepBody (m : Model) (p : Params) (s : St) : St :=
  let working := !(p.absence.contains s.time)
  let l1 := absenceSet tab m s.time working s.live
  let l2 := if working then allocate tab m s.logs p.rule l1 else l1
  let l3 := if working || p.autoFlag then chkWorking tab m l2 else l2
  let l4 := compCheck tab m l3
  let lg1 := cost tab m working l4 s.logs
  let l5 := perform tab m working p.autoFlag l4
  let lg2 := record tab m working l5 lg1
  { s with live := l5, logs := lg2, time := s.time + 1 }

def loop (m : Model) (p : Params) : Nat → St → St
  | 0, s => s
  | fuel + 1, s =>
    let s1 := { s with live := update tab m s.time s.live }
    if allFinished m s1.live then { s1 with status := .success }
    else if s1.time ≥ p.maxTime then { s1 with status := .failure }
    else loop m p fuel (stepBody tab m p s1)

def simulate (m : Model) (p : Params) (s : St) : St :=
  let s0 := initProject tab m p.initState p.initLog s
  let s1 := { s0 with mode := .forward, absence := p.absence, autoFlag := p.autoFlag }
  loop tab m p (p.maxTime - s1.time + 1) s1

def updated (m : Model) (s : St) : St := { s with live := update tab m s.time s.live }

def trace (m : Model) (p : Params) : Nat → St → List St
  | 0, _ => []
  | fuel + 1, s =>
    let s1 := updated tab m s
    if done m p s1 then [] else
      let s2 := stepBody tab m p s1
      s2 :: trace m p fuel s2

def updTrace (m : Model) (p : Params) : Nat → St → List St
  | 0, _ => []
  | fuel + 1, s =>
    let s1 := updated tab m s
    if done m p s1 then [s1] else s1 :: updTrace m p fuel (stepBody tab m p s1)

def enter (m : Model) (p : Params) (s : St) : St :=
  let s0 := initProject tab m p.initState p.initLog s
  { s0 with mode := .forward, absence := p.absence, autoFlag := p.autoFlag }

def runTrace (m : Model) (p : Params) (s : St) : List St :=
  trace tab m p (fuelOf p (enter tab m p s)) (enter tab m p s)

def runUpdTrace (m : Model) (p : Params) (s : St) : List St :=
  updTrace tab m p (fuelOf p (enter tab m p s)) (enter tab m p s)

end

abbrev noTab {α : Type} (_ : Nat) (f : Nat → α) : Nat → α := f

theorem tabN_eq_noTab : @tabN = @noTab := by
  funext α n f
  exact tabN_eq n f

-- `unfold` before `rfl`: see the header of Lemmas/Frame

theorem pert_tabN : pert @tabN = PDesy.pert := by
  funext m time l; unfold pert PDesy.pert; rfl

theorem update_tabN : update @tabN = PDesy.update := by
  funext m time l; unfold update PDesy.update; rfl

theorem stepBody_tabN : stepBody @tabN = PDesy.stepBody := by
  funext m p s; unfold stepBody PDesy.stepBody; rfl

theorem updated_tabN : updated @tabN = PDesy.updated := by
  funext m s; unfold updated PDesy.updated; rw [update_tabN]

theorem enter_tabN : enter @tabN = PDesy.enter := by
  funext m p s; unfold enter PDesy.enter; rfl

theorem loop_tabN (m : Model) (p : Params) : ∀ fuel s, loop @tabN m p fuel s = PDesy.loop m p fuel s
  | 0, _ => rfl
  | fuel + 1, s => by
    show (if _ then _ else if _ then _ else
      loop @tabN m p fuel (stepBody @tabN m p (updated @tabN m s))) = _
    rw [loop_tabN m p fuel, stepBody_tabN, updated_tabN]
    rfl

theorem trace_tabN (m : Model) (p : Params) : ∀ fuel s, trace @tabN m p fuel s = PDesy.trace m p fuel s
  | 0, _ => rfl
  | fuel + 1, s => by
    show (if done m p (updated @tabN m s) then _ else
      stepBody @tabN m p (updated @tabN m s) :: trace @tabN m p fuel _) = _
    rw [trace_tabN m p fuel, stepBody_tabN, updated_tabN]
    rfl

theorem updTrace_tabN (m : Model) (p : Params) :
    ∀ fuel s, updTrace @tabN m p fuel s = PDesy.updTrace m p fuel s
  | 0, _ => rfl
  | fuel + 1, s => by
    show (if done m p (updated @tabN m s) then _ else
      updated @tabN m s :: updTrace @tabN m p fuel (stepBody @tabN m p (updated @tabN m s))) = _
    rw [updTrace_tabN m p fuel, stepBody_tabN, updated_tabN]
    rfl

theorem pert_fast : PDesy.pert = pert noTab := by rw [← tabN_eq_noTab, pert_tabN]

theorem update_fast : PDesy.update = update noTab := by rw [← tabN_eq_noTab, update_tabN]

theorem stepBody_fast : PDesy.stepBody = stepBody noTab := by rw [← tabN_eq_noTab, stepBody_tabN]

theorem updated_fast : PDesy.updated = updated noTab := by rw [← tabN_eq_noTab, updated_tabN]

theorem enter_fast : PDesy.enter = enter noTab := by rw [← tabN_eq_noTab, enter_tabN]

theorem simulate_fast : PDesy.simulate = simulate noTab := by
  rw [← tabN_eq_noTab]; funext m p s
  show PDesy.loop m p (p.maxTime - (PDesy.enter m p s).time + 1) (PDesy.enter m p s) =
    loop @tabN m p (p.maxTime - (enter @tabN m p s).time + 1) (enter @tabN m p s)
  rw [enter_tabN, loop_tabN]

theorem trace_fast : PDesy.trace = trace noTab := by
  rw [← tabN_eq_noTab]; funext m p fuel s; rw [trace_tabN]

theorem runTrace_fast : PDesy.runTrace = runTrace noTab := by
  rw [← tabN_eq_noTab]; funext m p s
  unfold PDesy.runTrace runTrace
  rw [enter_tabN, trace_tabN]

theorem runUpdTrace_fast : PDesy.runUpdTrace = runUpdTrace noTab := by
  rw [← tabN_eq_noTab]; funext m p s
  unfold PDesy.runUpdTrace runUpdTrace
  rw [enter_tabN, updTrace_tabN]

end PDesy.Fast
