/-
  PDesy.Lemmas.Frame — what each step function and each phase of the loop writes.

  A function `f` of `Model/Phases.lean` gets a record equation `f … l = { l with … }`: a field that
  is not listed is unchanged; a listed field is given in closed form (`f_eq`) or, where there is
  none, as `(f … l).fld` (`f_frame`; `finishOne_eq` is closed for the task fields only).  A fact
  about a single field is then `by rw [f_eq]` or `by rw [f_frame]`, and the phase is not unfolded.
  Never `rfl` on the folded terms: to prove `(f … l).fld = l.fld` the unifier first tries
  `f … l =?= l`, which unfolds the phase through `tabN`; where a definition has to be opened it is
  `unfold f; rfl`, or `unfold f; rw [tabN_eq]`.  `f_fold` says which fold over which list `f` is once
  the tabulation is dropped, for the proofs that follow its steps.  `check_state(FINISHED)`,
  `allocate` and `moveComp` have their equations where their inductions live (`Finish.chkFinished_frame`;
  `allocate_frame`, `moveComp_frame` in AllocLoop); `cost` and `record` are unfolded where they are
  used (Logs, LogKey, Removal).
-/
import PDesy.Lemmas.ListFacts
import PDesy.Model.Sim

namespace PDesy

/-- `W a b` is `a` with the written fields taken from `b`. -/
theorem foldl_frame {α β : Type} {f : β → α → β} (W : β → β → β)
    (hW : ∀ a b c, W (W a b) c = W a c) (hid : ∀ a, W a a = a)
    (h : ∀ b x, f b x = W b (f b x)) (xs : List α) (l : β) :
    xs.foldl f l = W l (xs.foldl f l) :=
  foldl_inv_mem f (fun b => b = W l b) xs
    (fun b x _ hb => (h b x).trans ((congrArg (W · (f b x)) hb).trans (hW l b _))) l (hid l).symm

/-- `get`, `set`: one function-valued field of `Live` as a lens (the three laws are `rfl` for a
record field). -/
theorem foldl_field {α : Type} (get : Live → Nat → α) (set : Live → (Nat → α) → Live)
    (hgs : ∀ a g, get (set a g) = g) (hss : ∀ a g g', set (set a g) g' = set a g')
    (hsg : ∀ a, set a (get a) = a) (p : α → Bool) (v : α) (xs : List Nat) (l : Live) :
    xs.foldl (fun a x => if p (get a x) then set a (upd (get a) x v) else a) l =
      set l (fun y => if y ∈ xs ∧ p (get l y) = true then v else get l y) := by
  -- the fold runs on the field alone; `set l` carries it back
  have e := List.foldl_hom (set l) (g₁ := fun g x => if p (g x) then upd g x v else g)
    (g₂ := fun a x => if p (get a x) then set a (upd (get a) x v) else a) (l := xs) (init := get l)
    (fun g x => by rw [hgs, hss]; split <;> rfl)
  rw [hsg] at e
  rw [e]
  congr 1
  funext y
  exact foldl_upd_if p v xs (get l) y

theorem foldl_releaseW_frame (t : Nat) (ws : List Nat) (l : Live) :
    ws.foldl (releaseW t) l =
      { l with wstate := (ws.foldl (releaseW t) l).wstate, wasg := (ws.foldl (releaseW t) l).wasg } :=
  foldl_frame (fun a b => { a with wstate := b.wstate, wasg := b.wasg }) (fun _ _ _ => rfl)
    (fun _ => rfl) (fun l w => by unfold releaseW; split <;> rfl) ws l

theorem foldl_releaseF_frame (t : Nat) (fs : List Nat) (l : Live) :
    fs.foldl (releaseF t) l =
      { l with fstate := (fs.foldl (releaseF t) l).fstate, fasg := (fs.foldl (releaseF t) l).fasg } :=
  foldl_frame (fun a b => { a with fstate := b.fstate, fasg := b.fasg }) (fun _ _ _ => rfl)
    (fun _ => rfl) (fun l f => by unfold releaseF; split <;> rfl) fs l

theorem finishOne_eq (m : Model) (l : Live) (t : Nat) :
    finishOne m l t =
      { l with tstate := upd l.tstate t .finished, rem := upd l.rem t 0,
               allocW := upd l.allocW t [],
               allocF := if (m.task t).needFac then upd l.allocF t [] else l.allocF,
               wstate := (finishOne m l t).wstate, wasg := (finishOne m l t).wasg,
               fstate := (finishOne m l t).fstate, fasg := (finishOne m l t).fasg } := by
  -- with the written fields as unknowns first, so that the folds are rewritten by small terms
  have key : ∃ ws wa fs fa, finishOne m l t =
      { l with tstate := upd l.tstate t .finished, rem := upd l.rem t 0,
               allocW := upd l.allocW t [],
               allocF := if (m.task t).needFac then upd l.allocF t [] else l.allocF,
               wstate := ws, wasg := wa, fstate := fs, fasg := fa } := by
    unfold finishOne
    dsimp only
    generalize hl2 : List.foldl (releaseW t) _ _ = l2
    have h2 := foldl_releaseW_frame t (l.allocW t)
      { l with tstate := upd l.tstate t .finished, rem := upd l.rem t 0 }
    rw [hl2] at h2
    cases (m.task t).needFac
    · exact ⟨l2.wstate, l2.wasg, l.fstate, l.fasg, by rw [h2]; rfl⟩
    · generalize hl4 : List.foldl (releaseF t) _ _ = l4
      have h4 := foldl_releaseF_frame t (l2.allocF t) { l2 with allocW := upd l2.allocW t [] }
      rw [hl4] at h4
      exact ⟨l2.wstate, l2.wasg, l4.fstate, l4.fasg, by rw [h4, h2]; rfl⟩
  obtain ⟨ws, wa, fs, fa, h⟩ := key
  rw [h]

theorem compCheck_eq (m : Model) (l : Live) :
    compCheck m l = { l with cstate := fun c => if c < m.nC then compNext m l c else l.cstate c } := by
  unfold compCheck; rw [tabN_eq]

theorem removeOne_frame (l : Live) (c : Nat) :
    removeOne l c = { l with wpComps := (removeOne l c).wpComps, placed := (removeOne l c).placed } := by
  unfold removeOne; split <;> rfl

theorem removeOne_placed (l : Live) (c : Nat) :
    (removeOne l c).placed = upd l.placed c Option.none := by
  unfold removeOne
  split
  · rename_i h; rw [← h, upd_eq_self]
  · rfl

theorem chkRemoveOrd_fold (m : Model) (order : List Nat) (l : Live) :
    chkRemoveOrd m order l = (order.filter (removeCand m l)).foldl removeOne l := by
  simp only [chkRemoveOrd, tabN_eq]

theorem chkRemove_fold (m : Model) (l : Live) :
    chkRemove m l = ((List.range m.nC).filter (removeCand m l)).foldl removeOne l :=
  chkRemoveOrd_fold m _ l

theorem chkRemove_frame (m : Model) (l : Live) :
    chkRemove m l =
      { l with wpComps := (chkRemove m l).wpComps, placed := (chkRemove m l).placed } := by
  rw [chkRemove_fold]
  exact foldl_frame (fun a b => { a with wpComps := b.wpComps, placed := b.placed })
    (fun _ _ _ => rfl) (fun _ => rfl) removeOne_frame _ l

theorem foldl_removeOne_placed (cs : List Nat) (l : Live) (c : Nat) :
    (cs.foldl removeOne l).placed c = if c ∈ cs then Option.none else l.placed c := by
  rw [foldl_get_upd_if Live.placed removeOne (fun _ => true) Option.none
    (fun a x => by rw [removeOne_placed]; rfl)]
  simp

theorem chkRemove_placed (m : Model) (l : Live) (c : Nat) :
    (chkRemove m l).placed c =
      if c < m.nC ∧ removeCand m l c = true then Option.none else l.placed c := by
  simp only [chkRemove_fold, foldl_removeOne_placed, List.mem_filter, List.mem_range]

theorem chkReady_eq (m : Model) (l : Live) :
    chkReady m l = { l with tstate := fun t =>
      if t < m.nT && l.tstate t == .none && readyGate m l.tstate t then .ready else l.tstate t } := by
  unfold chkReady; rw [tabN_eq]

theorem pert_frame (m : Model) (time : Nat) (l : Live) :
    pert m time l =
      { l with est := (pert m time l).est, eft := (pert m time l).eft, lst := (pert m time l).lst,
               lft := (pert m time l).lft, cpl := (pert m time l).cpl } := by
  have : ∃ a b c d e, pert m time l = { l with est := a, eft := b, lst := c, lft := d, cpl := e } :=
    ⟨_, _, _, _, _, rfl⟩
  obtain ⟨a, b, c, d, e, h⟩ := this
  rw [h]

theorem absenceSet_eq (m : Model) (time : Nat) (working : Bool) (l : Live) :
    absenceSet m time working l =
      { l with
        wstate := fun w =>
          if w < m.nW then
            (if working then resState ((m.worker w).absence.contains time) (l.wasg w) else .absence)
          else l.wstate w
        fstate := fun f =>
          if f < m.nF then
            (if working then resState ((m.fac f).absence.contains time) (l.fasg f) else .absence)
          else l.fstate f } := by
  unfold absenceSet; rw [tabN_eq, tabN_eq]

theorem foldl_setW (ws : List Nat) (a : Live) :
    ws.foldl (fun a w => { a with wstate := upd a.wstate w .working }) a =
      { a with wstate := fun w => if w ∈ ws then .working else a.wstate w } := by
  have := foldl_field Live.wstate (fun a g => { a with wstate := g }) (fun _ _ => rfl)
    (fun _ _ _ => rfl) (fun _ => rfl) (fun _ => true) .working ws a
  simpa using this

theorem foldl_setF (fs : List Nat) (a : Live) :
    fs.foldl (fun a f => { a with fstate := upd a.fstate f .working }) a =
      { a with fstate := fun f => if f ∈ fs then .working else a.fstate f } := by
  have := foldl_field Live.fstate (fun a g => { a with fstate := g }) (fun _ _ => rfl)
    (fun _ _ _ => rfl) (fun _ => rfl) (fun _ => true) .working fs a
  simpa using this

theorem foldl_freeW (ws : List Nat) (b : Live) :
    ws.foldl (fun b w => if b.wstate w == .free then { b with wstate := upd b.wstate w .working } else b) b =
      { b with wstate := fun w => if w ∈ ws ∧ b.wstate w = .free then .working else b.wstate w } := by
  have := foldl_field Live.wstate (fun a g => { a with wstate := g }) (fun _ _ => rfl)
    (fun _ _ _ => rfl) (fun _ => rfl) (· == .free) .working ws b
  simpa using this

theorem foldl_freeF (fs : List Nat) (b : Live) :
    fs.foldl (fun b f => if b.fstate f == .free then { b with fstate := upd b.fstate f .working } else b) b =
      { b with fstate := fun f => if f ∈ fs ∧ b.fstate f = .free then .working else b.fstate f } := by
  have := foldl_field Live.fstate (fun a g => { a with fstate := g }) (fun _ _ => rfl)
    (fun _ _ _ => rfl) (fun _ => rfl) (· == .free) .working fs b
  simpa using this

/-- one iteration of the WORKING branch of `startOne` -/
private def startStep (m : Model) (t : Nat) (a : Live) (w : Nat) : Live :=
  let a1 := if a.wstate w == .free then { a with wstate := upd a.wstate w .working } else a
  if (m.task t).needFac then
    (a1.allocF t).foldl (fun b f =>
      if b.fstate f == .free then { b with fstate := upd b.fstate f .working } else b) a1
  else a1

private theorem startStep_eq (m : Model) (t : Nat) (a : Live) (w : Nat) :
    startStep m t a w =
    { a with
      wstate := fun w' => if w' = w ∧ a.wstate w' = .free then .working else a.wstate w'
      fstate := fun f => if (m.task t).needFac = true ∧ f ∈ a.allocF t ∧ a.fstate f = .free
        then .working else a.fstate f } := by
  have hw : (if a.wstate w == .free then { a with wstate := upd a.wstate w .working } else a) =
      { a with wstate := fun w' => if w' = w ∧ a.wstate w' = .free then .working else a.wstate w' } := by
    have := foldl_freeW [w] a
    simpa using this
  unfold startStep
  rw [hw]
  cases (m.task t).needFac
  · simp only [Bool.false_eq_true, if_false, false_and]
  · simp only [if_true, true_and, foldl_freeF]

private theorem foldl_startStep (m : Model) (t : Nat) (ws : List Nat) (a : Live) :
    ws.foldl (startStep m t) a =
    { a with
      wstate := fun w => if w ∈ ws ∧ a.wstate w = .free then .working else a.wstate w
      fstate := fun f => if (m.task t).needFac = true ∧ ws ≠ [] ∧ f ∈ a.allocF t ∧ a.fstate f = .free
        then .working else a.fstate f } := by
  induction ws generalizing a with
  | nil => simp
  | cons w ws ih =>
    rw [List.foldl_cons, ih, startStep_eq]
    simp only [Live.mk.injEq, true_and, and_true]
    constructor
    · funext w'; grind
    · funext f; grind

/-- `l.allocW t ≠ []`: for a WORKING task the facility loop runs inside the worker loop. -/
theorem startOne_eq (m : Model) (l : Live) (t : Nat) :
    startOne m l t =
      { l with
        tstate := if l.tstate t = .ready then upd l.tstate t .working else l.tstate
        wstate := fun w => if w ∈ l.allocW t ∧
            (l.tstate t = .ready ∨ (l.tstate t = .working ∧ l.wstate w = .free))
          then .working else l.wstate w
        fstate := fun f => if (m.task t).needFac = true ∧ f ∈ l.allocF t ∧
            (l.tstate t = .ready ∨ (l.tstate t = .working ∧ l.allocW t ≠ [] ∧ l.fstate f = .free))
          then .working else l.fstate f } := by
  have hstep : startOne m l t =
      if l.tstate t == .ready then
        let l2 := (l.allocW t).foldl (fun a w => { a with wstate := upd a.wstate w .working })
          { l with tstate := upd l.tstate t .working }
        if (m.task t).needFac then
          (l2.allocF t).foldl (fun a f => { a with fstate := upd a.fstate f .working }) l2
        else l2
      else if l.tstate t == .working then (l.allocW t).foldl (startStep m t) l
      else l := rfl
  rw [hstep]
  by_cases h1 : l.tstate t = .ready
  · rw [if_pos (beq_iff_eq.mpr h1)]
    simp only [h1, if_true, foldl_setW, foldl_setF, true_or, and_true]
    cases (m.task t).needFac <;> simp
  · rw [if_neg (fun h => h1 (beq_iff_eq.mp h))]
    by_cases h2 : l.tstate t = .working
    · rw [if_pos (beq_iff_eq.mpr h2), foldl_startStep]
      simp only [h2, reduceCtorEq, if_false, false_or, true_and]
      congr 1; funext f; grind
    · rw [if_neg (fun h => h2 (beq_iff_eq.mp h))]
      simp [h1, h2]

theorem chkWorkingOrd_fold (m : Model) (order : List Nat) (l : Live) :
    chkWorkingOrd m order l = (order.filter (workingTarget m l)).foldl (startOne m) l := by
  simp only [chkWorkingOrd, tabN_eq]

theorem chkWorking_fold (m : Model) (l : Live) :
    chkWorking m l = ((List.range m.nT).filter (workingTarget m l)).foldl (startOne m) l :=
  chkWorkingOrd_fold m _ l

theorem foldl_startOne_tstate (m : Model) (ts : List Nat) (l : Live) (t : Nat) :
    (ts.foldl (startOne m) l).tstate t =
      if t ∈ ts ∧ l.tstate t = .ready then .working else l.tstate t := by
  rw [foldl_get_upd_if Live.tstate (startOne m) (· == .ready) .working
    (fun a x => by rw [startOne_eq]; by_cases h : a.tstate x = .ready <;> simp [h])]
  simp

theorem chkWorking_tstate (m : Model) (l : Live) (t : Nat) :
    (chkWorking m l).tstate t =
      if t < m.nT ∧ workingTarget m l t = true ∧ l.tstate t = .ready then .working
      else l.tstate t := by
  rw [chkWorking_fold, foldl_startOne_tstate]
  simp only [List.mem_filter, List.mem_range, and_assoc]

theorem chkWorking_frame (m : Model) (l : Live) :
    chkWorking m l =
      { l with tstate := (chkWorking m l).tstate, wstate := (chkWorking m l).wstate,
               fstate := (chkWorking m l).fstate } := by
  rw [chkWorking_fold]
  exact foldl_frame (f := startOne m)
    (fun a b => { a with tstate := b.tstate, wstate := b.wstate, fstate := b.fstate })
    (fun _ _ _ => rfl) (fun _ => rfl) (fun b t => by rw [startOne_eq]) _ l

theorem perform_eq (m : Model) (working autoFlag : Bool) (l : Live) :
    perform m working autoFlag l =
      { l with rem := fun t =>
          if t < m.nT && l.tstate t == .working && (working || (autoFlag && (m.task t).isAuto))
          then l.rem t - contrib m l t else l.rem t } := by
  unfold perform; rw [tabN_eq]

theorem initLive_eq (m : Model) (both : Bool) (l : Live) :
    initLive m both l =
      { l with
        tstate := fun t => if both && decide ((m.task t).prog ≥ 1) then TS.finished else TS.none
        rem := fun t => (m.task t).work * (1 - (m.task t).prog)
        est := fun _ => 0, eft := fun _ => 0, lst := fun _ => -1, lft := fun _ => -1
        allocW := fun _ => [], allocF := fun _ => []
        wstate := fun _ => RS.free, wasg := fun _ => []
        fstate := fun _ => RS.free, fasg := fun _ => []
        wpComps := fun _ => [] } := by
  unfold initLive; rw [tabN_eq, tabN_eq]

/-- `__update`, relative to the state after its first phase: `check_state(READY)` reads the task
states only, which nothing between the two phases writes. -/
theorem update_frame (m : Model) (time : Nat) (l : Live) :
    update m time l =
      { chkFinished m l with
        tstate := (chkReady m (chkFinished m l)).tstate
        est := (update m time l).est, eft := (update m time l).eft, lst := (update m time l).lst,
        lft := (update m time l).lft, cpl := (update m time l).cpl,
        cstate := (update m time l).cstate, placed := (update m time l).placed,
        wpComps := (update m time l).wpComps } := by
  -- the written fields as unknowns first: a field given as `(update ..).fld` would be rewritten too
  have key : ∃ e1 e2 e3 e4 e5 cs pl wc, update m time l =
      { chkFinished m l with
        tstate := (chkReady m (chkFinished m l)).tstate
        est := e1, eft := e2, lst := e3, lft := e4, cpl := e5, cstate := cs, placed := pl,
        wpComps := wc } := by
    unfold update
    generalize chkFinished m l = f
    have hr := chkRemove_frame m (compCheck m f)
    generalize chkRemove m (compCheck m f) = r at hr ⊢
    generalize hu : pert m time (compCheck m (chkReady m r)) = u
    refine ⟨u.est, u.eft, u.lst, u.lft, u.cpl, u.cstate, r.placed, r.wpComps, ?_⟩
    subst hu
    rw [hr]
    rfl
  obtain ⟨e1, e2, e3, e4, e5, cs, pl, wc, h⟩ := key
  rw [h]

end PDesy
