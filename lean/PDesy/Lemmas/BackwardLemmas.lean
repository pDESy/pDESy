/-
  PDesy.Lemmas.BackwardLemmas — `backward_simulate` (C17): `withHelpers` only appends (tasks at
  indices `≥ nT`, links to them at the END of input lists: `Extends`) and `dropHelpers` removes
  exactly that; `bwdStart m due s`, the state the inner run starts from, differs from `s` only in the
  eight live task fields and the four task logs (and there only at the helper slots `≥ m.nT`:
  Props/C17Start); the logs of the objects of `m` stay aligned through the whole of
  `backward_simulate`; the finish-to-start order read off the task-state logs of a run of any model.
-/
import PDesy.Model.Backward
import PDesy.Lemmas.Lifecycle
import PDesy.Lemmas.Logs

namespace PDesy.Bwd
open PDesy.Lifecycle

/-- dependency links stay inside the task list -/
def GraphInRange (m : Model) : Prop :=
  ∀ t, t < m.nT → (∀ e ∈ (m.task t).inputs, e.1 < m.nT) ∧ (∀ e ∈ (m.task t).outputs, e.1 < m.nT)

instance (m : Model) : Decidable (GraphInRange m) := by unfold GraphInRange; infer_instance

/-- the input and the output lists describe the same edges -/
def EdgeSym (m : Model) : Prop :=
  ∀ a b d, a < m.nT → b < m.nT → ((a, d) ∈ (m.task b).inputs ↔ (b, d) ∈ (m.task a).outputs)

@[simp] theorem revDeps_nT (m : Model) : (revDeps m).nT = m.nT := rfl
@[simp] theorem revDeps_inputs (m : Model) (t : Nat) :
    ((revDeps m).task t).inputs = (m.task t).outputs := rfl
@[simp] theorem revDeps_outputs (m : Model) (t : Nat) :
    ((revDeps m).task t).outputs = (m.task t).inputs := rfl
@[simp] theorem revDeps_prog (m : Model) (t : Nat) : ((revDeps m).task t).prog = (m.task t).prog := rfl

/-- `m'` is `r` with extra tasks at indices `≥ r.nT` and, for every old task, some links to
such extra tasks appended at the end of its input list; nothing else differs. -/
structure Extends (r m' : Model) : Prop where
  nT : r.nT ≤ m'.nT
  task : ∀ t, t < r.nT → ∃ hs : List (Nat × Dep), (∀ e ∈ hs, r.nT ≤ e.1 ∧ e.2 = .fs) ∧
      m'.task t = { r.task t with inputs := (r.task t).inputs ++ hs }
  nW : m'.nW = r.nW
  nF : m'.nF = r.nF
  nTeam : m'.nTeam = r.nTeam
  nWp : m'.nWp = r.nWp
  nC : m'.nC = r.nC
  worker : m'.worker = r.worker
  fac : m'.fac = r.fac
  team : m'.team = r.team
  wp : m'.wp = r.wp
  comp : m'.comp = r.comp

theorem Extends.refl (r : Model) : Extends r r :=
  ⟨Nat.le_refl _, fun _ _ => ⟨[], nofun, by rw [List.append_nil]⟩,
    rfl, rfl, rfl, rfl, rfl, rfl, rfl, rfl, rfl, rfl⟩

theorem Extends.addHelper {r m' : Model} (h : Extends r m') (mx : Int) (tail : Nat) :
    Extends r (addHelper mx m' tail) :=
  { h with
    nT := Nat.le_succ_of_le h.nT
    task := fun t ht => by
      obtain ⟨hs, hhs, htask⟩ := h.task t ht
      have hne : t ≠ m'.nT := Nat.ne_of_lt (Nat.lt_of_lt_of_le ht h.nT)
      by_cases htl : t = tail
      · refine ⟨hs ++ [(m'.nT, .fs)], fun e he => (List.mem_append.1 he).elim (hhs e) fun he =>
          List.mem_singleton.1 he ▸ ⟨h.nT, rfl⟩, ?_⟩
        simp only [PDesy.addHelper, if_neg hne, if_pos htl, htask, List.append_assoc]
      · exact ⟨hs, hhs, by simp only [PDesy.addHelper, if_neg hne, if_neg htl, htask]⟩ }

theorem Extends.withHelpers (r : Model) : Extends r (withHelpers r) :=
  foldl_inv_mem _ (Extends r) _ (fun _ t _ h => h.addHelper _ t) r (Extends.refl r)

theorem Extends.backwardModel (m : Model) (due : Bool) : Extends (revDeps m) (backwardModel m due) := by
  cases due
  · exact Extends.refl _
  · exact Extends.withHelpers _

theorem Extends.mem_inputs {r m' : Model} (h : Extends r m') {t : Nat} (ht : t < r.nT)
    {e : Nat × Dep} (he : e ∈ (r.task t).inputs) : e ∈ (m'.task t).inputs := by
  obtain ⟨hs, _, htask⟩ := h.task t ht
  rw [htask]; exact List.mem_append_left _ he

theorem Extends.prog {r m' : Model} (h : Extends r m') {t : Nat} (ht : t < r.nT) :
    (m'.task t).prog = (r.task t).prog := by
  obtain ⟨hs, _, htask⟩ := h.task t ht
  rw [htask]

theorem Extends.outputs {r m' : Model} (h : Extends r m') {t : Nat} (ht : t < r.nT) :
    (m'.task t).outputs = (r.task t).outputs := by
  obtain ⟨hs, _, htask⟩ := h.task t ht
  rw [htask]

theorem Extends.dropHelpers_task {r m' : Model} (h : Extends r m')
    (hr : ∀ t, t < r.nT → ∀ e ∈ (r.task t).inputs, e.1 < r.nT) (t : Nat) (ht : t < r.nT) :
    (dropHelpers r.nT m').task t = r.task t := by
  obtain ⟨hs, hhs, htask⟩ := h.task t ht
  simp only [dropHelpers, if_pos ht]
  rw [htask]
  simp only
  -- the filter keeps the old links and drops the appended ones
  rw [List.filter_append, List.filter_eq_self.2 fun e he => decide_eq_true (hr t ht e he),
    List.filter_eq_nil_iff.2 fun e he => by simpa using (hhs e he).1, List.append_nil]

theorem model_ext {a b : Model} (h1 : a.nT = b.nT) (h2 : a.nW = b.nW) (h3 : a.nF = b.nF)
    (h4 : a.nTeam = b.nTeam) (h5 : a.nWp = b.nWp) (h6 : a.nC = b.nC) (h7 : a.task = b.task)
    (h8 : a.worker = b.worker) (h9 : a.fac = b.fac) (h10 : a.team = b.team) (h11 : a.wp = b.wp)
    (h12 : a.comp = b.comp) : a = b := by
  cases a; cases b; simp_all

theorem Extends.dropHelpers_eq {r m' : Model} (h : Extends r m')
    (hr : ∀ t, t < r.nT → ∀ e ∈ (r.task t).inputs, e.1 < r.nT)
    (hdef : ∀ t, r.nT ≤ t → r.task t = default) : dropHelpers r.nT m' = r :=
  model_ext rfl h.nW h.nF h.nTeam h.nWp h.nC
    (funext fun t => if ht : t < r.nT then h.dropHelpers_task hr t ht
      else (if_neg ht).trans (hdef t (Nat.le_of_not_lt ht)).symm)
    h.worker h.fac h.team h.wp h.comp

theorem revDeps_revDeps (m : Model) : revDeps (revDeps m) = m := by unfold revDeps; rfl

theorem revDeps_task_of_eq {a : Model} {t : Nat} {x : TaskS} (h : a.task t = x) :
    (revDeps a).task t = { x with inputs := x.outputs, outputs := x.inputs } :=
  congrArg (fun x : TaskS => { x with inputs := x.outputs, outputs := x.inputs }) h

theorem revDeps_wp_congr {a b : Model} (h : a.wp = b.wp) : (revDeps a).wp = (revDeps b).wp :=
  congrArg (fun w : Nat → WpS => fun q =>
    { w q with inputs := (w q).outputs, outputs := (w q).inputs }) h

/-! The `finally` block on an extension `m'` of the reversed model: `dropHelpers` gives the reversed
model back (`dropHelpers_task`, `dropHelpers_eq`; the workplaces were never touched), and reversing
that is `m` (`revDeps_revDeps`). -/

theorem Extends.restored_task {m m' : Model} (h : Extends (revDeps m) m') (hr : GraphInRange m)
    {t : Nat} (ht : t < m.nT) : (revDeps (dropHelpers m.nT m')).task t = m.task t :=
  (revDeps_task_of_eq (h.dropHelpers_task (fun t ht => (hr t ht).2) t ht)).trans
    (congrArg (·.task t) (revDeps_revDeps m))

theorem Extends.restored_wp {m m' : Model} (h : Extends (revDeps m) m') :
    (revDeps (dropHelpers m.nT m')).wp = m.wp :=
  (revDeps_wp_congr (a := dropHelpers m.nT m') h.wp).trans (congrArg (·.wp) (revDeps_revDeps m))

theorem Extends.restored_eq {m m' : Model} (h : Extends (revDeps m) m') (hr : GraphInRange m)
    (hdef : ∀ t, m.nT ≤ t → m.task t = default) : revDeps (dropHelpers m.nT m') = m :=
  -- a default task has no links: reversed it is a default task
  (congrArg revDeps (h.dropHelpers_eq (fun t ht => (hr t ht).2)
    fun t ht => revDeps_task_of_eq (hdef t ht))).trans (revDeps_revDeps m)

theorem addHelper_nT (mx : Int) (M : Model) (tail : Nat) : (addHelper mx M tail).nT = M.nT + 1 := rfl

theorem foldl_addHelper_nT (mx : Int) (ts : List Nat) :
    ∀ M : Model, (ts.foldl (addHelper mx) M).nT = M.nT + ts.length := by
  induction ts with
  | nil => intro M; rfl
  | cons t ts ih => intro M; rw [List.foldl_cons, ih, addHelper_nT, List.length_cons]; omega

theorem withHelpers_nT (r : Model) : (withHelpers r).nT = r.nT + (helperTargets r).length :=
  foldl_addHelper_nT _ _ r

theorem backwardModel_nT (m : Model) (due : Bool) :
    (backwardModel m due).nT = m.nT + (if due then (helperTargets (revDeps m)).length else 0) := by
  cases due
  · rfl
  · exact withHelpers_nT (revDeps m)

@[simp] theorem backwardModel_false (m : Model) : backwardModel m false = revDeps m := rfl

@[simp] theorem backwardModel_false_nT (m : Model) : (backwardModel m false).nT = m.nT := rfl

theorem reverseLogs_time (m : Model) (s : St) : (reverseLogs m s).time = s.time := rfl

theorem reverseLogs_tState (m : Model) (s : St) (t : Nat) (ht : t < m.nT) :
    (reverseLogs m s).logs.tState t = (s.logs.tState t).reverse :=
  (reverseLogs_get s (.tState t)).trans (if_pos ht)

section frame
variable (m : Model) (due : Bool) (s : St)

@[simp] theorem bwdStart_cpl : (bwdStart m due s).live.cpl = s.live.cpl := rfl
@[simp] theorem bwdStart_wstate : (bwdStart m due s).live.wstate = s.live.wstate := rfl
@[simp] theorem bwdStart_wasg : (bwdStart m due s).live.wasg = s.live.wasg := rfl
@[simp] theorem bwdStart_fstate : (bwdStart m due s).live.fstate = s.live.fstate := rfl
@[simp] theorem bwdStart_fasg : (bwdStart m due s).live.fasg = s.live.fasg := rfl
@[simp] theorem bwdStart_cstate : (bwdStart m due s).live.cstate = s.live.cstate := rfl
@[simp] theorem bwdStart_placed : (bwdStart m due s).live.placed = s.live.placed := rfl
@[simp] theorem bwdStart_wpComps : (bwdStart m due s).live.wpComps = s.live.wpComps := rfl

@[simp] theorem bwdStart_log_wState : (bwdStart m due s).logs.wState = s.logs.wState := rfl
@[simp] theorem bwdStart_log_wCost : (bwdStart m due s).logs.wCost = s.logs.wCost := rfl
@[simp] theorem bwdStart_log_wAsg : (bwdStart m due s).logs.wAsg = s.logs.wAsg := rfl
@[simp] theorem bwdStart_log_fState : (bwdStart m due s).logs.fState = s.logs.fState := rfl
@[simp] theorem bwdStart_log_fCost : (bwdStart m due s).logs.fCost = s.logs.fCost := rfl
@[simp] theorem bwdStart_log_fAsg : (bwdStart m due s).logs.fAsg = s.logs.fAsg := rfl
@[simp] theorem bwdStart_log_teamCost : (bwdStart m due s).logs.teamCost = s.logs.teamCost := rfl
@[simp] theorem bwdStart_log_wpCost : (bwdStart m due s).logs.wpCost = s.logs.wpCost := rfl
@[simp] theorem bwdStart_log_wpPlaced : (bwdStart m due s).logs.wpPlaced = s.logs.wpPlaced := rfl
@[simp] theorem bwdStart_log_orgCost : (bwdStart m due s).logs.orgCost = s.logs.orgCost := rfl
@[simp] theorem bwdStart_log_projCost : (bwdStart m due s).logs.projCost = s.logs.projCost := rfl
@[simp] theorem bwdStart_log_cState : (bwdStart m due s).logs.cState = s.logs.cState := rfl
@[simp] theorem bwdStart_log_cPlaced : (bwdStart m due s).logs.cPlaced = s.logs.cPlaced := rfl

@[simp] theorem bwdStart_time : (bwdStart m due s).time = s.time := rfl
@[simp] theorem bwdStart_status : (bwdStart m due s).status = s.status := rfl
@[simp] theorem bwdStart_mode : (bwdStart m due s).mode = s.mode := rfl
@[simp] theorem bwdStart_absence : (bwdStart m due s).absence = s.absence := rfl
@[simp] theorem bwdStart_autoFlag : (bwdStart m due s).autoFlag = s.autoFlag := rfl

end frame

theorem SizesLE.of_extends {r M : Model} (E : Extends r M) : SizesLE r M :=
  ⟨E.nT, Nat.le_of_eq E.nW.symm, Nat.le_of_eq E.nF.symm, Nat.le_of_eq E.nTeam.symm,
    Nat.le_of_eq E.nWp.symm, Nat.le_of_eq E.nC.symm⟩

theorem SizesLE.backwardModel (m : Model) (due : Bool) : SizesLE m (backwardModel m due) :=
  -- `Extends.backwardModel` speaks of `revDeps m`, whose six sizes are those of `m` by `rfl`
  have E := SizesLE.of_extends (Extends.backwardModel m due)
  ⟨E.nT, E.nW, E.nF, E.nTeam, E.nWp, E.nC⟩

/-- `bwdStart` only touches task logs at indices `≥ m.nT` -/
theorem aligned_bwdStart_iff_of_le {m m' : Model} {s : St} (due : Bool) (hT : m'.nT ≤ m.nT) :
    Aligned m' (bwdStart m due s) ↔ Aligned m' s :=
  ⟨fun h => h.congr_get rfl fun _ hk => (bwdStart_get due s hT hk).symm,
   fun h => h.congr_get rfl fun _ hk => bwdStart_get due s hT hk⟩

/-- Nothing is assumed about the helper slots: alignment of the slots of `m` is an invariant of the
inner loop on its own (`aligned_sub_run`). -/
theorem aligned_backwardSimulate (m : Model) (p : Params) (due rev : Bool) (s : St)
    (h : p.initLog = true ∨ Aligned m s) : Aligned m (backwardSimulate m p due rev s) := by
  have h2 : Aligned m (simulate (backwardModel m due) p (bwdStart m due s)) :=
    aligned_sub_run (SizesLE.backwardModel m due) _
      (h.imp id (aligned_bwdStart_iff_of_le due (Nat.le_refl _)).2)
  -- writing the mode touches neither logs nor clock (on a variable: `rfl` on the run would unfold it)
  have hmode {x : St} (hx : Aligned m x) : Aligned m { x with mode := .backward } := hx.congr rfl rfl
  unfold backwardSimulate
  cases rev
  · exact hmode h2
  · exact (hmode h2).reverse

/-! A forward run of ANY model `M` that cleared its logs: entry `k` of a task's state log shows the
state recorded at step `k` (`Logs.run_rowAt`), so the dependency invariant (`DepInv_loopInv`) and the
lifecycle order (`run_mono`) of the recorded states can be read off the logs.  C17 uses this at
`M = backwardModel m due`. -/

section run
variable {M : Model} {p : Params}

theorem run_tState_entry (s : St) (hl : p.initLog = true) {t : Nat} (ht : t < M.nT) {k : Nat}
    (hk : k < (runTrace M p s).length) :
    ((simulate M p s).logs.tState t)[k]? =
      some (showT (workingAt p k) ((runTrace M p s)[k].live.tstate t)) :=
  (Logs.run_rowAt s hl k hk).tState t ht

theorem run_tState_length (s : St) (hl : p.initLog = true) {t : Nat} (ht : t < M.nT) :
    ((simulate M p s).logs.tState t).length = (runTrace M p s).length := by
  rw [← Logs.run_time s hl]; exact (aligned_sub_run (.refl M) s (Or.inl hl)).tState t ht

theorem run_lt_of_entry (s : St) (hl : p.initLog = true) {t : Nat} (ht : t < M.nT) {k : Nat} {x : TS}
    (h : ((simulate M p s).logs.tState t)[k]? = some x) : k < (runTrace M p s).length := by
  rw [← run_tState_length s hl ht]
  exact (List.getElem?_eq_some_iff.mp h).1

theorem run_entry_live (s : St) (hl : p.initLog = true) {t : Nat} (ht : t < M.nT) {k : Nat} {x : TS}
    (h : ((simulate M p s).logs.tState t)[k]? = some x) :
    ∃ hk : k < (runTrace M p s).length,
      x = showT (workingAt p k) ((runTrace M p s)[k].live.tstate t) := by
  have hk := run_lt_of_entry s hl ht h
  refine ⟨hk, ?_⟩
  rw [run_tState_entry s hl ht hk] at h
  exact (Option.some.inj h).symm

theorem run_mono (M : Model) (p : Params) (s : St) :
    List.Pairwise (fun a b => Mono a.live.tstate b.live.tstate) (enter M p s :: runTrace M p s) :=
  mono_trace M p _ _

theorem run_fs_row (s : St) (hs : p.initState = true) (hl : p.initLog = true) {a b : Nat}
    (ha : a < M.nT) (hb : b < M.nT) (hex : ¬ exempt M a) (hedge : (b, Dep.fs) ∈ (M.task a).inputs)
    {k : Nat} {x : TS} (h : ((simulate M p s).logs.tState a)[k]? = some x) (hx : x ≠ .none) :
    ((simulate M p s).logs.tState b)[k]? = some .finished := by
  obtain ⟨hk, rfl⟩ := run_entry_live s hl ha h
  rw [run_tState_entry s hl hb hk]
  have row := ShownDep.of_depInv (workingAt p k)
    (((DepInv_loopInv M p).run (DepInv_enter M hs s)).1 _ (List.getElem_mem hk))
  exact congrArg some (((row a ha hex).1 hx (b, .fs) hedge).1 rfl)

theorem run_finished_persists (s : St) (hl : p.initLog = true) {b : Nat} (hb : b < M.nT) {k k' : Nat}
    (h : ((simulate M p s).logs.tState b)[k]? = some .finished) (hkk : k ≤ k')
    (hk' : k' < (runTrace M p s).length) :
    ((simulate M p s).logs.tState b)[k']? = some .finished := by
  obtain ⟨hk, hx⟩ := run_entry_live s hl hb h
  rw [run_tState_entry s hl hb hk']
  have hf : (runTrace M p s)[k].live.tstate b = .finished := (showT_finished_iff _ _).mp hx.symm
  have hf' : (runTrace M p s)[k'].live.tstate b = .finished := by
    rcases Nat.lt_or_eq_of_le hkk with hlt | heq
    · have hp := (List.pairwise_cons.mp (run_mono M p s)).2
      have := List.pairwise_iff_getElem.mp hp k k' hk hk' hlt
      exact Mono.finished this hf
    · subst heq; exact hf
  exact congrArg some ((showT_finished_iff _ _).2 hf')

theorem run_exempt_finished (s : St) (hs : p.initState = true) (hl : p.initLog = true) {a : Nat}
    (ha : a < M.nT) (hex : exempt M a) {k : Nat} {x : TS}
    (h : ((simulate M p s).logs.tState a)[k]? = some x) : x = .finished := by
  obtain ⟨hk, rfl⟩ := run_entry_live s hl ha h
  have h0 := enter_exempt M hs hl s a hex
  have hp := (List.pairwise_cons.mp (run_mono M p s)).1 _ (List.getElem_mem hk)
  exact (showT_finished_iff _ _).2 (Mono.finished hp h0)

theorem run_fs_order (s : St) (hs : p.initState = true) (hl : p.initLog = true) {a b : Nat}
    (ha : a < M.nT) (hb : b < M.nT) (hedge : (b, Dep.fs) ∈ (M.task a).inputs) {i j : Nat}
    (hi : ((simulate M p s).logs.tState b)[i]? = some .working)
    (hj : ((simulate M p s).logs.tState a)[j]? = some .working) : i < j := by
  by_cases hex : exempt M a
  · cases run_exempt_finished s hs hl ha hex hj
  · refine Nat.lt_of_not_le fun hji => ?_
    -- otherwise `b` is FINISHED at `j` (same row as `a` WORKING) and still at `i ≥ j`
    have h1 := run_fs_row s hs hl ha hb hex hedge hj nofun
    cases hi.symm.trans (run_finished_persists s hl hb h1 hji (run_lt_of_entry s hl hb hi))

end run

/-! Nothing in the library rests on what follows; the names are end results of the development and stay. -/

theorem Aligned.reverseLogs {m : Model} {s : St} (h : Aligned m s) : Aligned m (reverseLogs m s) :=
  h.reverse

theorem backwardModel_eq_of_no_targets (m : Model) (due : Bool)
    (h : helperTargets (revDeps m) = []) : backwardModel m due = revDeps m := by
  cases due
  · rfl
  · show withHelpers (revDeps m) = revDeps m
    unfold withHelpers
    simp only [h, List.foldl_nil]

end PDesy.Bwd
