/-
  PDesy.Lemmas.Logs — the logs of a run, read off its trace (C07, C08): the loop appends one row
  per recorded state (`loop_logs`, read by key in `rowLogs_get`); the `sumList` algebra behind the
  cost total of C07; the demo model of the `example`s; `Aligned m` along a run of a model with
  more objects than `m` (`Bwd.aligned_sub_run`); and with the logs aligned, entry `k` of every log
  shows the state of step `k` (`loop_rowAt`, `run_rowAt`).
-/
import PDesy.Lemmas.LogKey
import PDesy.Lemmas.Loop
import PDesy.Lemmas.ListFacts
import PDesy.Lemmas.Fast

namespace PDesy.Logs

variable {m : Model} {p : Params}

/-- the row of one recorded state `s'`; `s'` carries the clock already ticked, hence `s'.time - 1` -/
def row (m : Model) (p : Params) (g : Logs) (s' : St) : Logs :=
  record m (workingAt p (s'.time - 1)) s'.live (cost m (workingAt p (s'.time - 1)) s'.live g)

theorem rowLogs_eq (lg : Logs) (tr : List St) : rowLogs m p lg tr = tr.foldl (row m p) lg := rfl
@[simp] theorem rowLogs_nil (lg : Logs) : rowLogs m p lg [] = lg := rfl
@[simp] theorem rowLogs_cons (lg : Logs) (s' : St) (tr : List St) :
    rowLogs m p lg (s' :: tr) = rowLogs m p (row m p lg s') tr := by unfold rowLogs; rfl

/-- `cost` only reads the resource states, which `perform` does not change -/
theorem cost_perform (w a : Bool) (l : Live) (lg : Logs) :
    cost m w (perform m w a l) lg = cost m w l lg := by
  unfold cost; rfl  -- not a bare `rfl`: see the header of Lemmas/Frame

theorem stepBody_logs (s : St) : (stepBody m p s).logs = row m p s.logs (stepBody m p s) := by
  unfold stepBody row workingAt
  dsimp only
  rw [Nat.add_sub_cancel, cost_perform]

theorem loop_logs (fuel : Nat) (s : St) :
    (loop m p fuel s).logs = rowLogs m p s.logs (trace m p fuel s) :=
  loop_fold m p St.logs (row m p) updated_logs (fun _ _ => rfl) (fun _ => stepBody_logs _) fuel s

theorem row_get (g : Logs) (s' : St) (k : LogKey) : (row m p g s').get k =
    if k.In m then g.get k ++ [rowVal m (workingAt p (s'.time - 1)) s'.live s'.live k] else g.get k :=
  record_cost_get ..

theorem rowLogs_get (lg : Logs) (tr : List St) (k : LogKey) : (rowLogs m p lg tr).get k =
    if k.In m then lg.get k ++ tr.map fun s' => rowVal m (workingAt p (s'.time - 1)) s'.live s'.live k
    else lg.get k := by
  induction tr generalizing lg with
  | nil => simp
  | cons s' tr ih =>
    rw [rowLogs_cons, ih, row_get]
    split <;> simp

/-! field forms of `row_get` and `rowLogs_get`, for the field-wise statements of C01, C07 and C10 -/

theorem stepBody_tState (s : St) {t : Nat} (ht : t < m.nT) :
    ((stepBody m p s).logs.tState t).getLast? =
      some (showT (workingAt p s.time) ((stepBody m p s).live.tstate t)) := by
  rw [stepBody_logs, show (row m p s.logs (stepBody m p s)).tState t = _ from row_get _ _ (.tState t),
    if_pos (show (LogKey.tState t).In m from ht), List.getLast?_concat, stepBody_time,
    Nat.add_sub_cancel]
  rfl

theorem row_wState (g : Logs) (s' : St) (x : Nat) : (row m p g s').wState x =
    if x < m.nW then g.wState x ++ [showR (workingAt p (s'.time - 1)) (s'.live.wstate x)] else g.wState x :=
  row_get g s' (.wState x)
theorem row_wCost (g : Logs) (s' : St) (x : Nat) : (row m p g s').wCost x =
    if x < m.nW then g.wCost x ++ [wCostNow m s'.live (workingAt p (s'.time - 1)) x] else g.wCost x :=
  row_get g s' (.wCost x)
theorem row_fState (g : Logs) (s' : St) (x : Nat) : (row m p g s').fState x =
    if x < m.nF then g.fState x ++ [showR (workingAt p (s'.time - 1)) (s'.live.fstate x)] else g.fState x :=
  row_get g s' (.fState x)
theorem row_fCost (g : Logs) (s' : St) (x : Nat) : (row m p g s').fCost x =
    if x < m.nF then g.fCost x ++ [fCostNow m s'.live (workingAt p (s'.time - 1)) x] else g.fCost x :=
  row_get g s' (.fCost x)
theorem row_teamCost (g : Logs) (s' : St) (x : Nat) : (row m p g s').teamCost x =
    if x < m.nTeam then g.teamCost x ++ [teamCostNow m s'.live (workingAt p (s'.time - 1)) x]
    else g.teamCost x :=
  row_get g s' (.teamCost x)
theorem row_wpCost (g : Logs) (s' : St) (x : Nat) : (row m p g s').wpCost x =
    if x < m.nWp then g.wpCost x ++ [wpCostNow m s'.live (workingAt p (s'.time - 1)) x]
    else g.wpCost x :=
  row_get g s' (.wpCost x)
theorem row_orgCost (g : Logs) (s' : St) :
    (row m p g s').orgCost = g.orgCost ++ [orgCostNow m s'.live (workingAt p (s'.time - 1))] :=
  row_get g s' .orgCost
theorem row_projCost (g : Logs) (s' : St) :
    (row m p g s').projCost = g.projCost ++ [orgCostNow m s'.live (workingAt p (s'.time - 1))] :=
  row_get g s' .projCost

theorem rowLogs_wState (lg : Logs) (tr : List St) {x : Nat} (hx : x < m.nW) :
    (rowLogs m p lg tr).wState x =
      lg.wState x ++ tr.map (fun s' => showR (workingAt p (s'.time - 1)) (s'.live.wstate x)) :=
  (rowLogs_get lg tr (.wState x)).trans (if_pos hx)
theorem rowLogs_fState (lg : Logs) (tr : List St) {x : Nat} (hx : x < m.nF) :
    (rowLogs m p lg tr).fState x =
      lg.fState x ++ tr.map (fun s' => showR (workingAt p (s'.time - 1)) (s'.live.fstate x)) :=
  (rowLogs_get lg tr (.fState x)).trans (if_pos hx)
theorem rowLogs_orgCost (lg : Logs) (tr : List St) : (rowLogs m p lg tr).orgCost =
    lg.orgCost ++ tr.map (fun s' => orgCostNow m s'.live (workingAt p (s'.time - 1))) :=
  rowLogs_get lg tr .orgCost
theorem rowLogs_projCost (lg : Logs) (tr : List St) : (rowLogs m p lg tr).projCost =
    lg.projCost ++ tr.map (fun s' => orgCostNow m s'.live (workingAt p (s'.time - 1))) :=
  rowLogs_get lg tr .projCost

/-- entry `n` of every log of `lg` is the displayed value of the live state `l`
(display rule of a step whose working flag is `wk`) -/
structure RowAt (m : Model) (lg : Logs) (n : Nat) (wk : Bool) (l : Live) : Prop where
  tState : ∀ x, x < m.nT → (lg.tState x)[n]? = some (showT wk (l.tstate x))
  tRem : ∀ x, x < m.nT → (lg.tRem x)[n]? = some (l.rem x)
  tAllocW : ∀ x, x < m.nT → (lg.tAllocW x)[n]? = some (l.allocW x)
  tAllocF : ∀ x, x < m.nT → (lg.tAllocF x)[n]? = some (l.allocF x)
  wState : ∀ x, x < m.nW → (lg.wState x)[n]? = some (showR wk (l.wstate x))
  wCost : ∀ x, x < m.nW → (lg.wCost x)[n]? = some (wCostNow m l wk x)
  wAsg : ∀ x, x < m.nW → (lg.wAsg x)[n]? = some (l.wasg x)
  fState : ∀ x, x < m.nF → (lg.fState x)[n]? = some (showR wk (l.fstate x))
  fCost : ∀ x, x < m.nF → (lg.fCost x)[n]? = some (fCostNow m l wk x)
  fAsg : ∀ x, x < m.nF → (lg.fAsg x)[n]? = some (l.fasg x)
  teamCost : ∀ x, x < m.nTeam → (lg.teamCost x)[n]? = some (teamCostNow m l wk x)
  wpCost : ∀ x, x < m.nWp → (lg.wpCost x)[n]? = some (wpCostNow m l wk x)
  wpPlaced : ∀ x, x < m.nWp → (lg.wpPlaced x)[n]? = some (l.wpComps x)
  orgCost : lg.orgCost[n]? = some (orgCostNow m l wk)
  projCost : lg.projCost[n]? = some (orgCostNow m l wk)
  cState : ∀ x, x < m.nC → (lg.cState x)[n]? = some (showC wk (l.cstate x))
  cPlaced : ∀ x, x < m.nC → (lg.cPlaced x)[n]? = some (l.placed x)

theorem RowAt.of_get {lg : Logs} {n : Nat} {wk : Bool} {l : Live}
    (h : ∀ k : LogKey, k.In m → (lg.get k)[n]? = some (rowVal m wk l l k)) : RowAt m lg n wk l :=
  ⟨fun x => h (.tState x), fun x => h (.tRem x), fun x => h (.tAllocW x), fun x => h (.tAllocF x),
   fun x => h (.wState x), fun x => h (.wCost x), fun x => h (.wAsg x),
   fun x => h (.fState x), fun x => h (.fCost x), fun x => h (.fAsg x),
   fun x => h (.teamCost x), fun x => h (.wpCost x), fun x => h (.wpPlaced x),
   h .orgCost trivial, h .projCost trivial, fun x => h (.cState x), fun x => h (.cPlaced x)⟩

theorem sumList_nil : sumList [] = 0 := rfl
theorem sumList_cons (x : Rat) (xs : List Rat) : sumList (x :: xs) = x + sumList xs := rfl

attribute [local simp] sumList_nil sumList_cons

theorem sumList_map_zero {α : Type} (xs : List α) : sumList (xs.map fun _ => (0 : Rat)) = 0 := by
  induction xs with
  | nil => rfl
  | cons x xs ih => rw [List.map_cons, sumList_cons, ih, Rat.add_zero]

theorem sumList_map_add {α : Type} (f g : α → Rat) (xs : List α) :
    sumList (xs.map fun x => f x + g x) = sumList (xs.map f) + sumList (xs.map g) := by
  induction xs with
  | nil => exact (Rat.add_zero 0).symm
  | cons x xs ih => simp only [List.map_cons, sumList_cons, ih]; grind

theorem sumList_flatMap {α : Type} (f : α → List Rat) (xs : List α) :
    sumList (xs.flatMap f) = sumList (xs.map fun x => sumList (f x)) := by
  induction xs with
  | nil => rfl
  | cons x xs ih => simp [sumList_append, ih]

theorem sumList_swap {α β : Type} (f : α → β → Rat) (xs : List α) (ys : List β) :
    sumList (xs.map fun x => sumList (ys.map fun y => f x y)) =
    sumList (ys.map fun y => sumList (xs.map fun x => f x y)) := by
  induction xs with
  | nil => simp [sumList_map_zero]
  | cons x xs ih => simp [ih, sumList_map_add]

theorem sumList_parts {α β : Type} {xs : List α} {f : α → List β} {ys : List β}
    (h : (xs.flatMap f).Perm ys) (g : β → Rat) :
    sumList (xs.map fun x => sumList ((f x).map g)) = sumList (ys.map g) := by
  rw [← sumList_perm (h.map g), List.map_flatMap, sumList_flatMap]

theorem sumList_map_ite {α : Type} (P : α → Bool) (c : Rat) (xs : List α) :
    sumList (xs.map fun x => if P x then c else 0) = c * ((xs.countP P : Nat) : Rat) := by
  induction xs with
  | nil => exact (Rat.mul_zero c).symm
  | cons x xs ih =>
    rw [List.map_cons, sumList_cons, ih, List.countP_cons]
    cases P x
    · rw [if_neg Bool.false_ne_true, if_neg Bool.false_ne_true, Rat.zero_add, Nat.add_zero]
    · rw [if_pos rfl, if_pos rfl, Rat.natCast_add, Rat.mul_add, Rat.add_comm]; simp

theorem sumList_map_ite_count {α : Type} (g : α → RS) (c : Rat) (xs : List α) :
    sumList (xs.map fun x => if g x = .working then c else 0) =
      c * (((xs.map g).count RS.working : Nat) : Rat) := by
  rw [List.count_eq_countP, List.countP_map, ← sumList_map_ite]
  simp only [Function.comp_apply, beq_iff_eq]

theorem wCostNow_eq (l : Live) (wk : Bool) (w : Nat) :
    wCostNow m l wk w = if showR wk (l.wstate w) = .working then (m.worker w).cost else 0 := by
  cases wk <;> simp [wCostNow, showR]

theorem fCostNow_eq (l : Live) (wk : Bool) (f : Nat) :
    fCostNow m l wk f = if showR wk (l.fstate f) = .working then (m.fac f).cost else 0 := by
  cases wk <;> simp [fCostNow, showR]

theorem costNow_absence (l : Live) :
    (∀ w, wCostNow m l false w = 0) ∧ (∀ f, fCostNow m l false f = 0) ∧
    (∀ a, teamCostNow m l false a = 0) ∧ (∀ q, wpCostNow m l false q = 0) ∧
    orgCostNow m l false = 0 := by
  have hw : wCostNow m l false = fun _ => 0 := funext fun w => by simp [wCostNow]
  have hf : fCostNow m l false = fun _ => 0 := funext fun f => by simp [fCostNow]
  have ha : teamCostNow m l false = fun _ => 0 := funext fun a => by
    rw [teamCostNow, hw]; exact sumList_map_zero _
  have hq : wpCostNow m l false = fun _ => 0 := funext fun q => by
    rw [wpCostNow, hf]; exact sumList_map_zero _
  refine ⟨congrFun hw, congrFun hf, congrFun ha, congrFun hq, ?_⟩
  rw [orgCostNow, ha, hq, sumList_map_zero, sumList_map_zero, Rat.add_zero]

/-- a row written with the working flag off (`showR false _` is ABSENCE by definition) -/
theorem RowAt.absence {lg : Logs} {n : Nat} {l : Live} (h : RowAt m lg n false l) :
    (∀ w, w < m.nW → (lg.wState w)[n]? = some RS.absence ∧ (lg.wCost w)[n]? = some 0) ∧
    (∀ f, f < m.nF → (lg.fState f)[n]? = some RS.absence ∧ (lg.fCost f)[n]? = some 0) ∧
    (∀ a, a < m.nTeam → (lg.teamCost a)[n]? = some 0) ∧
    (∀ q, q < m.nWp → (lg.wpCost q)[n]? = some 0) ∧
    lg.orgCost[n]? = some 0 ∧ lg.projCost[n]? = some 0 := by
  obtain ⟨c1, c2, c3, c4, c5⟩ := costNow_absence (m := m) l
  exact ⟨fun w hw => ⟨h.wState w hw, by rw [h.wCost w hw, c1]⟩,
    fun f hf => ⟨h.fState f hf, by rw [h.fCost f hf, c2]⟩,
    fun a ha => by rw [h.teamCost a ha, c3], fun q hq => by rw [h.wpCost q hq, c4],
    by rw [h.orgCost, c5], by rw [h.projCost, c5]⟩

/-- the same of the row itself, as `stepBody` appends it -/
theorem row_absence (g : Logs) (s' : St) (h : workingAt p (s'.time - 1) = false) :
    (∀ w, w < m.nW → (row m p g s').wState w = g.wState w ++ [RS.absence] ∧
      (row m p g s').wCost w = g.wCost w ++ [0]) ∧
    (∀ f, f < m.nF → (row m p g s').fState f = g.fState f ++ [RS.absence] ∧
      (row m p g s').fCost f = g.fCost f ++ [0]) ∧
    (∀ a, a < m.nTeam → (row m p g s').teamCost a = g.teamCost a ++ [0]) ∧
    (∀ q, q < m.nWp → (row m p g s').wpCost q = g.wpCost q ++ [0]) ∧
    (row m p g s').orgCost = g.orgCost ++ [0] ∧ (row m p g s').projCost = g.projCost ++ [0] := by
  obtain ⟨c1, c2, c3, c4, c5⟩ := costNow_absence (m := m) s'.live
  refine ⟨fun w hw => ?_, fun f hf => ?_, fun a ha => ?_, fun q hq => ?_, ?_, ?_⟩
  · rw [row_wState, row_wCost, if_pos hw, if_pos hw, h, c1]; exact ⟨rfl, rfl⟩
  · rw [row_fState, row_fCost, if_pos hf, if_pos hf, h, c2]; exact ⟨rfl, rfl⟩
  · rw [row_teamCost, if_pos ha, h, c3]
  · rw [row_wpCost, if_pos hq, h, c4]
  · rw [row_orgCost, h, c5]
  · rw [row_projCost, h, c5]

theorem orgCostNow_flat
    (hW : ((List.range m.nTeam).flatMap fun a => (m.team a).workers).Perm (List.range m.nW))
    (hF : ((List.range m.nWp).flatMap fun q => (m.wp q).facs).Perm (List.range m.nF))
    (l : Live) (wk : Bool) :
    orgCostNow m l wk = sumList ((List.range m.nW).map (wCostNow m l wk)) +
      sumList ((List.range m.nF).map (fCostNow m l wk)) := by
  rw [← sumList_parts hW, ← sumList_parts hF]; rfl

/-- The double sum over steps and resources, swapped (`sumList_swap`): the inner sum over the steps
is then the resource's cost times the number of steps that show it WORKING. -/
theorem sum_orgCost_eq_cost_mul_count
    (hW : ((List.range m.nTeam).flatMap fun a => (m.team a).workers).Perm (List.range m.nW))
    (hF : ((List.range m.nWp).flatMap fun q => (m.wp q).facs).Perm (List.range m.nF))
    (tr : List St) :
    sumList (tr.map fun s' => orgCostNow m s'.live (workingAt p (s'.time - 1))) =
      sumList ((List.range m.nW).map fun w => (m.worker w).cost *
        (((tr.map fun s' => showR (workingAt p (s'.time - 1)) (s'.live.wstate w)).count
          RS.working : Nat) : Rat)) +
      sumList ((List.range m.nF).map fun f => (m.fac f).cost *
        (((tr.map fun s' => showR (workingAt p (s'.time - 1)) (s'.live.fstate f)).count
          RS.working : Nat) : Rat)) := by
  simp only [orgCostNow_flat hW hF]
  rw [sumList_map_add]
  have e1 := sumList_swap (fun (s' : St) w => wCostNow m s'.live (workingAt p (s'.time - 1)) w)
    tr (List.range m.nW)
  have e2 := sumList_swap (fun (s' : St) f => fCostNow m s'.live (workingAt p (s'.time - 1)) f)
    tr (List.range m.nF)
  rw [e1, e2]
  simp only [wCostNow_eq, fCostNow_eq, sumList_map_ite_count]

/-- a small concrete model for the satisfiability examples: two tasks in sequence (the second
needs a facility), one team of two workers, one workplace with one facility, one component -/
def demo : Model where
  nT := 2
  nW := 2
  nF := 1
  nTeam := 1
  nWp := 1
  nC := 1
  task := fun t =>
    if t = 0 then { name := 0, work := 2, outputs := [(1, .fs)], wps := [0], comp := some 0 }
    else if t = 1 then { name := 1, work := 1, inputs := [(0, .fs)], needFac := true, wps := [0], comp := some 0 }
    else {}
  worker := fun w =>
    if w = 0 then { team := 0, skills := [(0, 1)], cost := 3 }
    else if w = 1 then { team := 0, skills := [(1, 1)], facSkills := [(0, 1)], cost := 5 }
    else {}
  fac := fun f => if f = 0 then { wp := 0, name := 0, skills := [(1, 1)], cost := 7 } else {}
  team := fun a => if a = 0 then { workers := [0, 1], targets := [0, 1] } else {}
  wp := fun q => if q = 0 then { facs := [0], targets := [1], cap := 10 } else {}
  comp := fun c => if c = 0 then { tasks := [0, 1] } else {}

def demoP : Params := { absence := [1], maxTime := 20 }

/-- the demo run, evaluated once: what the `example`s of C02, C07, C08, C09Det, C10 and C15 quote of it
(four steps, step 1 an absence step) -/
theorem demo_run :
    (simulate demo demoP St.fresh).time = 4 ∧
    (simulate demo demoP St.fresh).status = .success ∧
    (runTrace demo demoP St.fresh).length = 4 ∧
    (simulate demo demoP St.fresh).logs.projCost = [3, 0, 3, 12] ∧
    (simulate demo demoP St.fresh).logs.tRem 0 = [1, 1, 0, 0] ∧
    (simulate demo demoP St.fresh).logs.tState 0 = [.working, .ready, .working, .finished] ∧
    (simulate demo demoP St.fresh).logs.tState 1 = [.none, .none, .none, .working] ∧
    (simulate demo demoP St.fresh).logs.wState 0 = [.working, .absence, .working, .free] ∧
    (simulate demo demoP St.fresh).logs.wState 1 = [.free, .absence, .free, .working] ∧
    (simulate demo demoP St.fresh).logs.fState 0 = [.free, .absence, .free, .working] := by
  simp only [Fast.simulate_fast, Fast.runTrace_fast]; decide +kernel

/-- states of the demo run, each in the form in which an `example` of C02, C06, C08, C09Det or C10
quotes it: the first `updated` state (task 0 READY behind an open gate, task 1 NONE behind a closed
one), the states recorded at the steps 0 (the next step is the absence step), 1 and 2 (task 0 WORKING
with no work left: `check_state(FINISHED)`, hence the next `__update`, finishes it), the returned
state -/
theorem demo_states :
    ((runUpdTrace demo demoP St.fresh)[0]?.map fun s =>
      (s.live.tstate 0, readyGate demo s.live.tstate 0,
       s.live.tstate 1, readyGate demo s.live.tstate 1)) = some (.ready, true, .none, false) ∧
    ((runTrace demo demoP St.fresh)[0]?.map fun s => workingAt demoP (updated demo s).time) =
      some false ∧
    ((runTrace demo demoP St.fresh)[1]?.map fun s => s.live.tstate 0) = some TS.working ∧
    ((runTrace demo demoP St.fresh)[2]?.map fun s =>
      (s.live.tstate 0, s.live.rem 0, (chkFinished demo s.live).tstate 0)) =
      some (.working, 0, .finished) ∧
    ((runTrace demo demoP St.fresh)[2]?.map fun s =>
      (s.live.tstate 0, s.live.rem 0, finishGate demo (update demo s.time s.live).tstate 0,
       (update demo s.time s.live).tstate 0)) = some (.working, 0, true, .finished) ∧
    (simulate demo demoP St.fresh).live.tstate 0 = .finished ∧
    (simulate demo demoP St.fresh).live.tstate 1 = .finished := by
  simp only [Fast.simulate_fast, Fast.runTrace_fast, Fast.runUpdTrace_fast, Fast.update_fast]
  decide +kernel

/-- evaluated once, for the `example`s of C02, C07 and C08 -/
theorem demo_trace : 2 < (trace demo demoP 9 St.fresh).length := by
  rw [Fast.trace_fast]; decide +kernel

end PDesy.Logs

namespace PDesy
open PDesy.Logs

variable {m : Model} {p : Params}

/-! `Aligned m` is an invariant of the loop of ANY model `M` whose six sizes are at least those of
`m` (the inner run of `backward_simulate` works on a model with extra tasks): every log of `M` —
in particular every log at an index below the sizes of `m` — grows by exactly one entry per
step.  Nothing is asked about the logs at the indices `m.nT ≤ t < M.nT`.  At `M = m` this is the
counting half of C08. -/

structure Bwd.SizesLE (m M : Model) : Prop where
  nT : m.nT ≤ M.nT
  nW : m.nW ≤ M.nW
  nF : m.nF ≤ M.nF
  nTeam : m.nTeam ≤ M.nTeam
  nWp : m.nWp ≤ M.nWp
  nC : m.nC ≤ M.nC

open Bwd (SizesLE)

theorem Bwd.SizesLE.refl (m : Model) : SizesLE m m :=
  ⟨Nat.le_refl _, Nat.le_refl _, Nat.le_refl _, Nat.le_refl _, Nat.le_refl _, Nat.le_refl _⟩

theorem Bwd.SizesLE.in {M : Model} (h : SizesLE m M) : ∀ {k : LogKey}, k.In m → k.In M
  | .tState _ | .tRem _ | .tAllocW _ | .tAllocF _ => fun hk => Nat.lt_of_lt_of_le hk h.nT
  | .wState _ | .wCost _ | .wAsg _ => fun hk => Nat.lt_of_lt_of_le hk h.nW
  | .fState _ | .fCost _ | .fAsg _ => fun hk => Nat.lt_of_lt_of_le hk h.nF
  | .teamCost _ => fun hk => Nat.lt_of_lt_of_le hk h.nTeam
  | .wpCost _ | .wpPlaced _ => fun hk => Nat.lt_of_lt_of_le hk h.nWp
  | .orgCost | .projCost => fun hk => hk
  | .cState _ | .cPlaced _ => fun hk => Nat.lt_of_lt_of_le hk h.nC

theorem Aligned.mono {M : Model} {s : St} (h : Aligned M s) (hle : SizesLE m M) : Aligned m s :=
  .of_get fun k hk => h.get k (hle.in hk)

section sub
variable {M : Model}

theorem Bwd.aligned_sub_step (hle : SizesLE m M) (s : St) (h : Aligned m s) :
    Aligned m (stepBody M p s) :=
  h.map (· + 1) (fun k hk => by
    rw [stepBody_logs, row_get, if_pos (hle.in hk), List.length_append]; rfl) rfl

theorem Bwd.aligned_sub_loopInv (hle : SizesLE m M) : LoopInv M p (Aligned m) :=
  ⟨fun s hs => hs.congr (updated_logs s) (updated_time s), fun s hs _ => aligned_sub_step hle s hs,
    fun s _ hs => hs.congr (s := s) rfl rfl⟩

theorem Bwd.aligned_sub_loop (hle : SizesLE m M) (fuel : Nat) (s : St) (h : Aligned m s) :
    Aligned m (loop M p fuel s) :=
  (aligned_sub_loopInv hle).loop h fuel

theorem Bwd.aligned_sub_init (stateInfo : Bool) (s : St) :
    Aligned m (initProject M stateInfo true s) :=
  .of_get fun k _ => by
    rw [initProject_logs, initProject_time, if_pos rfl, if_pos rfl, Logs.empty_get]; rfl

theorem Bwd.aligned_sub_init_keep (stateInfo : Bool) (s : St) (h : Aligned m s) :
    Aligned m (initProject M stateInfo false s) :=
  h.congr (by rw [initProject_logs]; rfl) (by rw [initProject_time]; rfl)

theorem Bwd.aligned_sub_enter (s : St) (h : p.initLog = true ∨ Aligned m s) :
    Aligned m (enter M p s) := by
  refine Aligned.congr (s := initProject M p.initState p.initLog s) ?_ rfl rfl
  cases hl : p.initLog
  · exact aligned_sub_init_keep _ _ (h.resolve_left (by rw [hl]; exact Bool.noConfusion))
  · exact aligned_sub_init _ _

theorem Bwd.aligned_sub_run (hle : SizesLE m M) (s : St) (h : p.initLog = true ∨ Aligned m s) :
    Aligned m (simulate M p s) := by
  rw [simulate_eq]; exact aligned_sub_loop hle _ _ (aligned_sub_enter s h)

end sub

namespace Logs

theorem loop_rowAt (fuel : Nat) (s : St) (h : Aligned m s) (k : Nat)
    (hk : k < (trace m p fuel s).length) :
    RowAt m (loop m p fuel s).logs (s.time + k) (workingAt p (s.time + k))
      ((trace m p fuel s)[k]).live :=
  .of_get fun key hkey => by
    -- entry `s.time + k` is entry `k` of what the loop appended; the state recorded at step `k`
    -- carries the clock `s.time + k + 1`
    rw [loop_logs, rowLogs_get, if_pos hkey, ← h.get key hkey]
    simp [hk, trace_time fuel s k hk, h.get key hkey]

theorem run_time (s : St) (h : p.initLog = true) :
    (simulate m p s).time = (runTrace m p s).length := by
  rw [simulate_eq, loop_time, enter_time s h, Nat.zero_add]; rfl

theorem run_rowAt (s : St) (h : p.initLog = true) (k : Nat) (hk : k < (runTrace m p s).length) :
    RowAt m (simulate m p s).logs k (workingAt p k) ((runTrace m p s)[k]).live := by
  have h1 := loop_rowAt (p := p) _ _ (Bwd.aligned_sub_enter s (Or.inl h)) k hk
  rw [enter_time s h, Nat.zero_add] at h1
  exact h1

/-! Nothing in the library rests on what follows; the names are end results of the development and
stay. -/

theorem rowLogs_append (lg : Logs) (tr tr' : List St) :
    rowLogs m p lg (tr ++ tr') = rowLogs m p (rowLogs m p lg tr) tr' := by
  simp [rowLogs_eq, List.foldl_append]

theorem rowLogs_tState_out (lg : Logs) (tr : List St) {x : Nat} (hx : ¬ x < m.nT) :
    (rowLogs m p lg tr).tState x = lg.tState x := (rowLogs_get lg tr (.tState x)).trans (if_neg hx)
theorem rowLogs_tRem_out (lg : Logs) (tr : List St) {x : Nat} (hx : ¬ x < m.nT) :
    (rowLogs m p lg tr).tRem x = lg.tRem x := (rowLogs_get lg tr (.tRem x)).trans (if_neg hx)
theorem rowLogs_tAllocW_out (lg : Logs) (tr : List St) {x : Nat} (hx : ¬ x < m.nT) :
    (rowLogs m p lg tr).tAllocW x = lg.tAllocW x := (rowLogs_get lg tr (.tAllocW x)).trans (if_neg hx)
theorem rowLogs_tAllocF_out (lg : Logs) (tr : List St) {x : Nat} (hx : ¬ x < m.nT) :
    (rowLogs m p lg tr).tAllocF x = lg.tAllocF x := (rowLogs_get lg tr (.tAllocF x)).trans (if_neg hx)
theorem rowLogs_wState_out (lg : Logs) (tr : List St) {x : Nat} (hx : ¬ x < m.nW) :
    (rowLogs m p lg tr).wState x = lg.wState x := (rowLogs_get lg tr (.wState x)).trans (if_neg hx)
theorem rowLogs_wCost_out (lg : Logs) (tr : List St) {x : Nat} (hx : ¬ x < m.nW) :
    (rowLogs m p lg tr).wCost x = lg.wCost x := (rowLogs_get lg tr (.wCost x)).trans (if_neg hx)
theorem rowLogs_wAsg_out (lg : Logs) (tr : List St) {x : Nat} (hx : ¬ x < m.nW) :
    (rowLogs m p lg tr).wAsg x = lg.wAsg x := (rowLogs_get lg tr (.wAsg x)).trans (if_neg hx)
theorem rowLogs_fState_out (lg : Logs) (tr : List St) {x : Nat} (hx : ¬ x < m.nF) :
    (rowLogs m p lg tr).fState x = lg.fState x := (rowLogs_get lg tr (.fState x)).trans (if_neg hx)
theorem rowLogs_fCost_out (lg : Logs) (tr : List St) {x : Nat} (hx : ¬ x < m.nF) :
    (rowLogs m p lg tr).fCost x = lg.fCost x := (rowLogs_get lg tr (.fCost x)).trans (if_neg hx)
theorem rowLogs_fAsg_out (lg : Logs) (tr : List St) {x : Nat} (hx : ¬ x < m.nF) :
    (rowLogs m p lg tr).fAsg x = lg.fAsg x := (rowLogs_get lg tr (.fAsg x)).trans (if_neg hx)
theorem rowLogs_teamCost_out (lg : Logs) (tr : List St) {x : Nat} (hx : ¬ x < m.nTeam) :
    (rowLogs m p lg tr).teamCost x = lg.teamCost x := (rowLogs_get lg tr (.teamCost x)).trans (if_neg hx)
theorem rowLogs_wpCost_out (lg : Logs) (tr : List St) {x : Nat} (hx : ¬ x < m.nWp) :
    (rowLogs m p lg tr).wpCost x = lg.wpCost x := (rowLogs_get lg tr (.wpCost x)).trans (if_neg hx)
theorem rowLogs_wpPlaced_out (lg : Logs) (tr : List St) {x : Nat} (hx : ¬ x < m.nWp) :
    (rowLogs m p lg tr).wpPlaced x = lg.wpPlaced x := (rowLogs_get lg tr (.wpPlaced x)).trans (if_neg hx)
theorem rowLogs_cState_out (lg : Logs) (tr : List St) {x : Nat} (hx : ¬ x < m.nC) :
    (rowLogs m p lg tr).cState x = lg.cState x := (rowLogs_get lg tr (.cState x)).trans (if_neg hx)
theorem rowLogs_cPlaced_out (lg : Logs) (tr : List St) {x : Nat} (hx : ¬ x < m.nC) :
    (rowLogs m p lg tr).cPlaced x = lg.cPlaced x := (rowLogs_get lg tr (.cPlaced x)).trans (if_neg hx)

end Logs
end PDesy
