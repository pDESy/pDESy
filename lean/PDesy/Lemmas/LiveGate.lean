/-
  PDesy.Lemmas.LiveGate — the fragments in which the property files state liveness, each an instance
  of the fragment `FragLG` of Live.lean (C05): `FragL` (no FF/SF link at all) with its instance
  `Ded` (a never-absent worker of one's own; there all open tasks advance at every working step,
  `Ded.step`), and with all four link kinds `DedG` and `GatesOwn` (a worker of its own for every
  task, resp. for every task with a finish gate).  Relying only on workers that are never
  individually absent removes the worker term of the bound (`bound_neverAbsent`).
-/
import PDesy.Lemmas.Live

namespace PDesy
namespace Live_
open Elig LiveG

/-- Fragment L ("shared workers"): tasks without facility, automatic tasks without component,
FS/SS links only, an acyclic in-range graph (rank function `rk`), positive automatic rates, and
for every non-automatic task at least one eligible worker of the organisation among those relied
upon (`R w = true`; their individual absence steps enter the bound).  Solo workers are allowed
only when every worker is relied upon (a solo worker, or a worker already on the task when a solo
worker comes, shuts the others out: then it is that worker's presence that matters). -/
structure FragL (m : Model) (rk : Nat → Nat) (R : Nat → Bool) : Prop where
  noFac : ∀ t, t < m.nT → (m.task t).needFac = false
  autoNoComp : ∀ t, t < m.nT → (m.task t).isAuto = true → (m.task t).comp = Option.none
  noFin : ∀ t, t < m.nT → Auto.NoFinDeps m t
  graph : ∀ t, t < m.nT → ∀ e ∈ (m.task t).inputs, e.1 < m.nT ∧ rk e.1 < rk t
  autoRate : ∀ t, t < m.nT → (m.task t).isAuto = true → 0 < (m.task t).autoRate
  solo : ∀ w, w < m.nW → (m.worker w).solo = true → ∀ w', w' < m.nW → R w' = true
  served : ∀ t, t < m.nT → (m.task t).isAuto = false →
    ∃ w, w < m.nW ∧ R w = true ∧ WorkerElig m t w

theorem FragL.toLG {m : Model} {rk : Nat → Nat} {R : Nat → Bool}
    (h : FragL m rk R) : FragLG m rk R where
  noFac := h.noFac
  autoNoComp := h.autoNoComp
  graph := h.graph
  autoRate := h.autoRate
  solo := h.solo
  served := by
    intro t ht ha
    obtain ⟨w, hw, hR, hel⟩ := h.served t ht ha
    exact ⟨w, hw, hR, hel, fun t' ht' _ _ => h.noFin t' ht'⟩

def neverAbsent (m : Model) (w : Nat) : Bool := (m.worker w).absence.isEmpty

/-- the sequential bound of the design: project absence steps, and per task three lifecycle steps
plus `⌈rem₀ / δ⌉` productive steps -/
def seqBound (m : Model) (p : Params) : Nat :=
  p.absence.length + sumTo m.nT (fun t => 3 + need m t)

theorem bound_neverAbsent (m : Model) (p : Params) : bound m p (neverAbsent m) = seqBound m p := by
  unfold bound seqBound
  rw [sumTo_eq_zero]
  · omega
  · intro w _
    unfold neverAbsent
    split
    · rename_i h; simp [List.isEmpty_iff.mp h]
    · rfl

/-- Fragment "dedicated workers": as fragment L, no worker is solo, and every non-automatic task
`t` has its own worker `d t` of the organisation that is eligible for `t`, never individually
absent, and eligible (skill and team) for no other task. -/
structure Ded (m : Model) (rk : Nat → Nat) (d : Nat → Nat) : Prop where
  noFac : ∀ t, t < m.nT → (m.task t).needFac = false
  autoNoComp : ∀ t, t < m.nT → (m.task t).isAuto = true → (m.task t).comp = Option.none
  noFin : ∀ t, t < m.nT → Auto.NoFinDeps m t
  graph : ∀ t, t < m.nT → ∀ e ∈ (m.task t).inputs, e.1 < m.nT ∧ rk e.1 < rk t
  autoRate : ∀ t, t < m.nT → (m.task t).isAuto = true → 0 < (m.task t).autoRate
  noSolo : ∀ w, w < m.nW → (m.worker w).solo = false
  ded : ∀ t, t < m.nT → (m.task t).isAuto = false →
    d t < m.nW ∧ WorkerElig m t (d t) ∧ (m.worker (d t)).absence = []
  excl : ∀ t, t < m.nT → (m.task t).isAuto = false → ∀ t', t' < m.nT → t' ≠ t →
    ¬ (hasSkill (m.worker (d t)).skills (m.task t').name = true ∧ teamTargets m (d t) t' = true)

theorem Ded.toL {m : Model} {rk d : Nat → Nat} (h : Ded m rk d) : FragL m rk (neverAbsent m) where
  noFac := h.noFac
  autoNoComp := h.autoNoComp
  noFin := h.noFin
  graph := h.graph
  autoRate := h.autoRate
  solo := by
    intro w hw hs; rw [h.noSolo w hw] at hs; cases hs
  served := by
    intro t ht ha
    obtain ⟨h1, h2, h3⟩ := h.ded t ht ha
    exact ⟨d t, h1, by simp [neverAbsent, h3], h2⟩

theorem Ded.step {m : Model} {rk d : Nat → Nat} (hD : Ded m rk d) {p : Params} {s : St}
    (hI : Inv m s.live) (hwork : p.absence.contains s.time = false) {t : Nat} (ht : t < m.nT)
    (ha : (m.task t).isAuto = false)
    (hu : (updated m s).live.tstate t = .ready ∨ (updated m s).live.tstate t = .working) :
    d t ∈ (iter m p s).live.allocW t ∧ (iter m p s).live.tstate t = .working ∧
    (iter m p s).live.rem t ≤ (updated m s).live.rem t - delta m t ∧
    phi m (iter m p s).live t + 1 ≤ phi m s.live t := by
  have hF := hD.toL.toLG
  have hg : finishGate m (updated m s).live.tstate t = true :=
    Lifecycle.finishGate_of_inputs m _ t (hD.noFin t ht)
  obtain ⟨hw, hel, habs⟩ := hD.ded t ht ha
  have hpres : (m.worker (d t)).absence.contains s.time = false := by rw [habs]; rfl
  have hI' := Inv_iter p hI
  have hmem : d t ∈ (iter m p s).live.allocW t := by
    rcases present_worker hF hI hwork hw ht ha hel hu hpres with ⟨t', hm'⟩ | ⟨_, ws, hws1, hws2⟩
    · -- its own worker is eligible for no other task
      have ht' := (hI'.rng t' (d t) hm').1
      have hel' : WorkerElig m t' (d t) := (hI'.elig t' ht').worker (d t) hm'
      have : t' = t := Classical.byContradiction fun hne =>
        hD.excl t ht ha t' ht' hne ⟨hel'.1, hel'.2.1⟩
      exact this ▸ hm'
    · rw [hD.noSolo ws hws1] at hws2; cases hws2
  exact ⟨hmem, worker_progress hF hI hwork hmem hg hpres⟩

end Live_

namespace LiveG
open Elig Live_

/-- Fragment "dedicated workers, all link kinds": no facilities, automatic tasks without component
and with positive rate, an acyclic in-range graph over all four kinds of links, no solo worker, and
every non-automatic task `t` has its own worker `d t` of the organisation: eligible for `t`, never
individually absent, and eligible for no other task. -/
structure DedG (m : Model) (rk : Nat → Nat) (d : Nat → Nat) : Prop where
  noFac : ∀ t, t < m.nT → (m.task t).needFac = false
  autoNoComp : ∀ t, t < m.nT → (m.task t).isAuto = true → (m.task t).comp = Option.none
  graph : ∀ t, t < m.nT → ∀ e ∈ (m.task t).inputs, e.1 < m.nT ∧ rk e.1 < rk t
  autoRate : ∀ t, t < m.nT → (m.task t).isAuto = true → 0 < (m.task t).autoRate
  noSolo : ∀ w, w < m.nW → (m.worker w).solo = false
  ded : ∀ t, t < m.nT → (m.task t).isAuto = false →
    d t < m.nW ∧ WorkerElig m t (d t) ∧ (m.worker (d t)).absence = []
  excl : ∀ t, t < m.nT → (m.task t).isAuto = false → ∀ t', t' < m.nT → t' ≠ t →
    ¬ WorkerElig m t' (d t)

theorem DedG.toLG {m : Model} {rk d : Nat → Nat} (h : DedG m rk d) :
    FragLG m rk (neverAbsent m) where
  noFac := h.noFac
  autoNoComp := h.autoNoComp
  graph := h.graph
  autoRate := h.autoRate
  solo := by
    intro w hw hs; rw [h.noSolo w hw] at hs; cases hs
  served := by
    intro t ht ha
    obtain ⟨h1, h2, h3⟩ := h.ded t ht ha
    exact ⟨d t, h1, by simp [neverAbsent, h3], h2,
      fun t' ht' hne hel => absurd hel (h.excl t ht ha t' ht' hne)⟩

/-- Mixed fragment: all four link kinds; every non-automatic task WITH an FF or SF input has a
relied-upon worker `d t` of its own (eligible for `t` and for no other task); every non-automatic
task WITHOUT FF/SF input has, as in fragment L, an eligible relied-upon worker — one that is
eligible for no task with an FF/SF input (such a task could hold it forever at its finish gate,
see `C05_live_gates_counterexample_shared`).  Workers may be individually absent (the absence
steps of the relied-upon ones enter the bound) and, between tasks without FF/SF input, shared. -/
structure GatesOwn (m : Model) (rk : Nat → Nat) (R : Nat → Bool) (d : Nat → Nat) : Prop where
  noFac : ∀ t, t < m.nT → (m.task t).needFac = false
  autoNoComp : ∀ t, t < m.nT → (m.task t).isAuto = true → (m.task t).comp = Option.none
  graph : ∀ t, t < m.nT → ∀ e ∈ (m.task t).inputs, e.1 < m.nT ∧ rk e.1 < rk t
  autoRate : ∀ t, t < m.nT → (m.task t).isAuto = true → 0 < (m.task t).autoRate
  solo : ∀ w, w < m.nW → (m.worker w).solo = true → ∀ w', w' < m.nW → R w' = true
  own : ∀ t, t < m.nT → (m.task t).isAuto = false → ¬ Auto.NoFinDeps m t →
    d t < m.nW ∧ R (d t) = true ∧ WorkerElig m t (d t) ∧
      ∀ t', t' < m.nT → t' ≠ t → ¬ WorkerElig m t' (d t)
  served : ∀ t, t < m.nT → (m.task t).isAuto = false → Auto.NoFinDeps m t →
    ∃ w, w < m.nW ∧ R w = true ∧ WorkerElig m t w ∧
      ∀ t', t' < m.nT → WorkerElig m t' w → Auto.NoFinDeps m t'

theorem GatesOwn.toLG {m : Model} {rk : Nat → Nat} {R : Nat → Bool} {d : Nat → Nat}
    (h : GatesOwn m rk R d) : FragLG m rk R where
  noFac := h.noFac
  autoNoComp := h.autoNoComp
  graph := h.graph
  autoRate := h.autoRate
  solo := h.solo
  served := by
    intro t ht ha
    by_cases hg : Auto.NoFinDeps m t
    · obtain ⟨w, hw, hR, hel, ho⟩ := h.served t ht ha hg
      exact ⟨w, hw, hR, hel, fun t' ht' _ hel' => ho t' ht' hel'⟩
    · obtain ⟨hw, hR, hel, ho⟩ := h.own t ht ha hg
      exact ⟨d t, hw, hR, hel, fun t' ht' hne hel' => absurd hel' (ho t' ht' hne)⟩

end LiveG

/-! Nothing in the library rests on what follows; the names are end results of the development and
stay. -/

open Live_ in
theorem Live_.Ded.inj {m : Model} {rk d : Nat → Nat} (h : Ded m rk d) {t t' : Nat} (ht : t < m.nT)
    (ht' : t' < m.nT) (ha : (m.task t).isAuto = false) (ha' : (m.task t').isAuto = false)
    (e : d t = d t') : t = t' := by
  apply Classical.byContradiction
  intro hne
  have hel := (h.ded t' ht' ha').2.1
  rw [← e] at hel
  exact h.excl t ht ha t' ht' (fun e' => hne e'.symm) ⟨hel.1, hel.2.1⟩

end PDesy
