/-
  PDesy.Lemmas.Order — C09, order independence: the phases that iterate over Python `set`s give the
  same result for every iteration order.  (The other half of C09, no hidden state, is
  `Lifecycle.enter_eq`.)

  `check_state(WORKING)` and `check_removing_placed_workplace` are folds of a step that commutes
  and is idempotent, so they depend on the set of members only, on any state.  One pass of
  `check_state(FINISHED)` does depend on the order, the closure does not: task states and remaining
  work are the least set closed under the finish rule (`Finish.chkFinishedOrd_order_indep`), and under
  `AllocInv` the rest of the state is a function `finForm` of these.  The PERT update solves
  equations that have one solution on finish-to-start networks (`pertOrd_AEqs`) and writes nothing
  outside the model.  `updateOrd` … `simulateOrd` are the simulation with every order a parameter.
-/
import PDesy.Lemmas.Alloc
import PDesy.Lemmas.Pert
import PDesy.Lemmas.Idem
namespace PDesy.Order

/-! ### a fold with a commuting, idempotent step depends only on the set of members -/

section fold
variable {α β : Type} (f : β → α → β)

theorem foldl_absorb (comm : ∀ z x y, f (f z x) y = f (f z y) x)
    (idem : ∀ z x, f (f z x) x = f z x) {x : α} {l : List α} (hx : x ∈ l) (z : β) :
    f (l.foldl f z) x = l.foldl f z := by
  have push : ∀ (l : List α) z, f (l.foldl f z) x = l.foldl f (f z x) := fun l =>
    List.rec (fun _ => rfl) (fun y l ih z => by rw [List.foldl_cons, ih, comm, List.foldl_cons]) l
  induction l generalizing z with
  | nil => cases hx
  | cons y l ih =>
    rcases List.mem_cons.mp hx with rfl | h
    · rw [List.foldl_cons, push, idem]
    · exact ih h _

/-- two lists with the same members give the same fold: folding the members of the one in again
after the other changes nothing, and `l₁ ++ l₂` is a permutation of `l₂ ++ l₁` -/
theorem foldl_eq_of_mem (comm : ∀ z x y, f (f z x) y = f (f z y) x)
    (idem : ∀ z x, f (f z x) x = f z x) {l₁ l₂ : List α} (hm : ∀ x, x ∈ l₁ ↔ x ∈ l₂) (z : β) :
    l₁.foldl f z = l₂.foldl f z := by
  have again : ∀ (a b : List α), (∀ x ∈ b, x ∈ a) → (a ++ b).foldl f z = a.foldl f z := by
    intro a b h
    rw [List.foldl_append]
    induction b with
    | nil => rfl
    | cons x b ih =>
      rw [List.foldl_cons, foldl_absorb f comm idem (h x (List.mem_cons_self ..)),
        ih (fun y hy => h y (List.mem_cons_of_mem _ hy))]
  rw [← again l₁ l₂ (fun x h => (hm x).2 h), ← again l₂ l₁ (fun x h => (hm x).1 h)]
  exact List.perm_append_comm.foldl_eq' (fun x _ y _ z => comm z x y) z

end fold

variable {m : Model}

/-! ### `check_removing_placed_workplace` -/

theorem removeOne_idem (l : Live) (c : Nat) : removeOne (removeOne l c) c = removeOne l c := by
  unfold removeOne
  cases h : l.placed c with
  | none => simp [h]
  | some p => simp

theorem upd_comm {α : Type} (f : Nat → α) (i j : Nat) (a b : α) (h : i ≠ j) :
    upd (upd f i a) j b = upd (upd f j b) i a := by
  funext k
  by_cases hj : k = j
  · subst hj; rw [upd_same, upd_other _ _ _ _ (Ne.symm h), upd_same]
  · rw [upd_other _ _ _ _ hj]
    by_cases hi : k = i
    · subst hi; rw [upd_same, upd_same]
    · rw [upd_other _ _ _ _ hi, upd_other _ _ _ _ hi, upd_other _ _ _ _ hj]

/-- removing two different components clears different `placed_workplace` entries and erases
different elements of the workplaces' lists (of the same list, if they are placed in the same
workplace: `List.erase` commutes) -/
theorem removeOne_comm (l : Live) (c c' : Nat) :
    removeOne (removeOne l c) c' = removeOne (removeOne l c') c := by
  by_cases hc : c' = c
  · subst hc; rfl
  · have hc' : c ≠ c' := fun e => hc e.symm
    unfold removeOne
    cases h : l.placed c with
    | none =>
      cases h' : l.placed c' with
      | none => simp [h]
      | some p' => simp [h, upd_other _ _ _ _ hc']
    | some p =>
      cases h' : l.placed c' with
      | none => simp [h, h', upd_other _ _ _ _ hc]
      | some p' =>
        simp only [h, h', upd_other _ _ _ _ hc, upd_other _ _ _ _ hc', Live.mk.injEq, true_and]
        refine ⟨upd_comm _ _ _ _ _ hc', ?_⟩
        by_cases hp : p' = p
        · subst hp
          funext q
          by_cases hq : q = p' <;> simp [hq, List.erase_comm c c']
        · have hp' : p ≠ p' := fun e => hp e.symm
          simp only [upd_other _ _ _ _ hp, upd_other _ _ _ _ hp']
          exact upd_comm _ _ _ _ _ hp'

theorem mem_filter_congr {o₁ o₂ : List Nat} (hm : ∀ t, t ∈ o₁ ↔ t ∈ o₂) (p : Nat → Bool) :
    ∀ t, t ∈ o₁.filter p ↔ t ∈ o₂.filter p := by
  intro t; simp only [List.mem_filter, hm t]

theorem chkRemoveOrd_congr (o₁ o₂ : List Nat) (hm : ∀ c, c ∈ o₁ ↔ c ∈ o₂) (l : Live) :
    chkRemoveOrd m o₁ l = chkRemoveOrd m o₂ l := by
  rw [chkRemoveOrd_fold, chkRemoveOrd_fold, foldl_eq_of_mem removeOne removeOne_comm removeOne_idem
    (mem_filter_congr hm (removeCand m l)) l]

/-! ### `startOne`: each step only pulls resources to WORKING -/

/-- pull to WORKING every resource whose index and present state satisfy `c` -/
def pull (c : Nat → RS → Prop) [∀ x v, Decidable (c x v)] (g : Nat → RS) (x : Nat) : RS :=
  if c x (g x) then .working else g x

section pull
variable (c d : Nat → RS → Prop) [∀ x v, Decidable (c x v)] [∀ x v, Decidable (d x v)] (g : Nat → RS)

/-- two pulls commute, whatever they read of the present state: what one of them has pulled is
WORKING, and stays WORKING under the other whether or not it fires -/
theorem pull_comm : pull c (pull d g) = pull d (pull c g) := by
  funext x
  unfold pull
  by_cases hc : c x (g x) <;> by_cases hd : d x (g x) <;> simp [hc, hd]

theorem pull_absorb (h : ∀ x v, c x v → d x v) : pull c (pull d g) = pull d g := by
  funext x
  unfold pull
  by_cases hd : d x (g x)
  · simp [hd]
  · have hc : ¬ c x (g x) := fun hc => hd (h x _ hc)
    simp [hd, hc]
end pull

/-- `startOne_eq` with the resource states as pulls -/
theorem startOne_form (m : Model) (l : Live) (t : Nat) :
    startOne m l t =
      { l with
        tstate := if l.tstate t = .ready then upd l.tstate t .working else l.tstate
        wstate := pull (fun w v => w ∈ l.allocW t ∧
            (l.tstate t = .ready ∨ (l.tstate t = .working ∧ v = .free))) l.wstate
        fstate := pull (fun f v => (m.task t).needFac = true ∧ f ∈ l.allocF t ∧
            (l.tstate t = .ready ∨ (l.tstate t = .working ∧ l.allocW t ≠ [] ∧ v = .free))) l.fstate } :=
  startOne_eq m l t

theorem startOne_tstate_ne (m : Model) (l : Live) {t t' : Nat} (h : t ≠ t') :
    (startOne m l t).tstate t' = l.tstate t' := by
  rw [Lifecycle.startOne_tstate]
  split
  · exact upd_other _ _ _ _ h.symm
  · rfl

theorem startOne_comm (m : Model) (l : Live) (t t' : Nat) :
    startOne m (startOne m l t) t' = startOne m (startOne m l t') t := by
  by_cases ht : t' = t
  · subst ht; rfl
  · have ht' : t ≠ t' := fun e => ht e.symm
    -- neither step changes the state of the other's task nor any allocation list, so each pulls
    -- under the same condition before and after the other
    rw [startOne_form m (startOne m l t) t', startOne_form m (startOne m l t') t,
      startOne_tstate_ne m l ht', startOne_tstate_ne m l ht, startOne_form m l t, startOne_form m l t']
    dsimp only
    rw [pull_comm, pull_comm (fun f v => (m.task t').needFac = true ∧ _)]
    congr 1
    by_cases h : l.tstate t = .ready <;> by_cases h' : l.tstate t' = .ready <;>
      simp [h, h', upd_comm _ _ _ _ _ ht']

theorem startOne_idem (m : Model) (l : Live) (t : Nat) :
    startOne m (startOne m l t) t = startOne m l t := by
  have hts : (startOne m l t).tstate t = if l.tstate t = .ready then .working else l.tstate t := by
    rw [Lifecycle.startOne_tstate]
    split <;> simp
  rw [startOne_form m (startOne m l t) t, hts, startOne_form m l t]
  dsimp only
  -- the task is not READY any more; if it was, the first step has pulled all it holds
  congr 1
  · by_cases h : l.tstate t = .ready <;> simp [h]
  · exact pull_absorb _ _ _ fun w v hc => by by_cases h : l.tstate t = .ready <;> simp_all
  · exact pull_absorb _ _ _ fun f v hc => by by_cases h : l.tstate t = .ready <;> simp_all

theorem chkWorkingOrd_congr (o₁ o₂ : List Nat) (hm : ∀ t, t ∈ o₁ ↔ t ∈ o₂) (l : Live) :
    chkWorkingOrd m o₁ l = chkWorkingOrd m o₂ l := by
  rw [chkWorkingOrd_fold, chkWorkingOrd_fold, foldl_eq_of_mem (startOne m) (startOne_comm m) (startOne_idem m)
    (mem_filter_congr hm (workingTarget m l)) l]

/-! ### `check_state(FINISHED)`: under `AllocInv` the result is a function (`finForm`) of the input
state and the task states it ends with, and these do not depend on the order -/

open PDesy.Finish

/-- task `t` is FINISHED in `ts` but was not in `l` -/
def newly (l : Live) (ts : Nat → TS) (t : Nat) : Bool :=
  ts t == .finished && l.tstate t != .finished

/-- the state reached from `l` (satisfying `AllocInv`) by `finishOne`-ing, in any order, the
tasks that are newly FINISHED in `ts`: their remaining work is 0, their allocation lists are
empty, exactly their workers / facilities are FREE and unassigned; nothing else changes -/
def finForm (l : Live) (ts : Nat → TS) : Live :=
  { l with
    tstate := ts
    rem := fun t => if newly l ts t then 0 else l.rem t
    allocW := fun t => if newly l ts t then [] else l.allocW t
    allocF := fun t => if newly l ts t then [] else l.allocF t
    wstate := fun w => if (l.wasg w).any (newly l ts) then .free else l.wstate w
    wasg := fun w => if (l.wasg w).any (newly l ts) then [] else l.wasg w
    fstate := fun f => if (l.fasg f).any (newly l ts) then .free else l.fstate f
    fasg := fun f => if (l.fasg f).any (newly l ts) then [] else l.fasg f }

theorem finForm_self (l : Live) : finForm l l.tstate = l := by
  have : ∀ t, newly l l.tstate t = false := by
    intro t; unfold newly; cases l.tstate t <;> rfl
  have h2 : ∀ xs : List Nat, xs.any (newly l l.tstate) = false := by
    intro xs; simp [this]
  simp [finForm, this, h2]

theorem newly_upd (l : Live) (ts : Nat → TS) (t : Nat) (hl : l.tstate t ≠ .finished) (x : Nat) :
    newly l (upd ts t .finished) x = (newly l ts x || x == t) := by
  unfold newly
  by_cases e : x = t
  · subst e; simp [hl]
  · simp [e]

theorem any_newly_upd (l : Live) (ts : Nat → TS) (t : Nat) (hl : l.tstate t ≠ .finished)
    (xs : List Nat) :
    xs.any (newly l (upd ts t .finished)) = (decide (t ∈ xs) || xs.any (newly l ts)) := by
  rw [Bool.eq_iff_iff]
  simp only [List.any_eq_true, newly_upd l ts t hl, Bool.or_eq_true, beq_iff_eq, decide_eq_true_eq]
  constructor
  · rintro ⟨x, hx, h | h⟩
    · exact Or.inr ⟨x, hx, h⟩
    · subst h; exact Or.inl hx
  · rintro (h | ⟨x, hx, h⟩)
    · exact ⟨t, h, Or.inr rfl⟩
    · exact ⟨x, hx, Or.inl h⟩

theorem ite_ite_same {α : Type} (p : Prop) [Decidable p] (b : Bool) (x y : α) :
    (if p then x else if b = true then x else y) = if (decide p || b) = true then x else y := by
  by_cases hp : p <;> simp [hp]

theorem finishOne_finForm {l : Live} (hl : AllocInv m l) (ts : Nat → TS) (t : Nat)
    (h : AllocInv m (finForm l ts)) (hts : ts t = .working) (hlt : l.tstate t = .working) :
    finishOne m (finForm l ts) t = finForm l (upd ts t .finished) := by
  have hne : l.tstate t ≠ .finished := by rw [hlt]; simp
  have hnew : newly l ts t = false := by simp [newly, hts]
  -- `t` still holds what it held in `l`, and `l` lists it with exactly these resources
  rw [h.finishOne_eq t]
  simp only [finForm, hnew, Bool.false_eq_true, if_false, Live.mk.injEq, true_and, and_true,
    any_newly_upd l ts t hne, newly_upd l ts t hne, hl.w_two t, hl.f_two t, ite_ite_same]
  refine ⟨?_, ?_, ?_⟩ <;> funext x <;> by_cases e : x = t <;> simp [e]

theorem chkFinishedOrd_form {l : Live} (hl : AllocInv m l) (order : List Nat) :
    chkFinishedOrd m order l = finForm l (chkFinishedOrd m order l).tstate := by
  -- what is reached from `l` through `finishOne`s keeps the invariant, `Closes` and the closed form
  obtain ⟨_, _, ts, e⟩ := chkFinishedOrd_ind
    (fun acc => AllocInv m acc ∧ Closes l acc ∧ ∃ ts, acc = finForm l ts) order
    (fun acc t _ hw hr _ ⟨hA, hC, ts, e⟩ => by
      subst e
      refine ⟨AllocInv_finishOne hA t, hC.trans (Closes.finishOne _ t hw hr), _,
        finishOne_finForm hl ts t hA hw ?_⟩
      rcases hC t with ⟨a1, _⟩ | ⟨a1, _⟩
      · rw [← a1]; exact hw
      · exact a1)
    l ⟨hl, Closes.refl l, l.tstate, (finForm_self l).symm⟩
  rw [e]
  rfl

theorem chkFinishedOrd_congr {l : Live} (hl : AllocInv m l) (o₁ o₂ : List Nat)
    (hm : ∀ t, t ∈ o₁ ↔ t ∈ o₂) (h1 : ∀ t ∈ o₁, t < m.nT) :
    chkFinishedOrd m o₁ l = chkFinishedOrd m o₂ l := by
  rw [chkFinishedOrd_form hl o₁, chkFinishedOrd_form hl o₂, (chkFinishedOrd_order_indep o₁ o₂ hm h1 l).1]

/-! ### PERT: on a finish-to-start network every order solves the same equations, and they have one
solution -/

open PDesy.PertSpec

theorem pertOrd_eq_pert {ord : List Nat → List Nat} (ho : OrdOK m.nT ord) (hfs : FSOnly m)
    (hok : GraphOK m) (hac : Acyclic m) (hn : 0 < m.nT) (time : Nat) (l : Live)
    (hnn : ∀ t, t < m.nT → 0 ≤ l.rem t) :
    pertOrd m ord time l = pert m time l := by
  obtain ⟨hc, hin⟩ := (pertOrd_AEqs ho hfs hok hac hn time l hnn).unique (dag_of hok hac)
    (pertOrd_AEqs (ordOK_canon m.nT) hfs hok hac hn time l hnn)
  -- outside the task list both leave the tables as they are in `l`
  have key : ∀ x, (pertOrd m ord time l).est x = (pertOrd m (canonSet m.nT) time l).est x ∧
      (pertOrd m ord time l).eft x = (pertOrd m (canonSet m.nT) time l).eft x ∧
      (pertOrd m ord time l).lst x = (pertOrd m (canonSet m.nT) time l).lst x ∧
      (pertOrd m ord time l).lft x = (pertOrd m (canonSet m.nT) time l).lft x := fun x =>
    if hx : x < m.nT then hin x hx else by
      have a := Idem.pertOrd_out m ho hok.wf time l x hx
      have b := Idem.pertOrd_out m (ordOK_canon m.nT) hok.wf time l x hx
      exact ⟨a.1.trans b.1.symm, a.2.1.trans b.2.1.symm, a.2.2.1.trans b.2.2.1.symm,
        a.2.2.2.trans b.2.2.2.symm⟩
  -- `pertOrd` changes the five PERT fields of `l` only
  rw [← pertOrd_canon]
  rw [Idem.pertOrd_eq m ord, Idem.pertOrd_eq m (canonSet m.nT)] at key hc ⊢
  dsimp only at key hc
  rw [funext fun x => (key x).1, funext fun x => (key x).2.1, funext fun x => (key x).2.2.1,
    funext fun x => (key x).2.2.2, hc]

/-! ### with every visiting order a parameter, `__update`, the step, the loop and `simulate` are the
model's -/

/-- `update` with the visiting orders of `__check_finished` (`oF`),
`check_removing_placed_workplace` (`oR`) and of the PERT waves (`ord`) as parameters -/
def updateOrd (m : Model) (ord : List Nat → List Nat) (oF oR : List Nat) (time : Nat) (l : Live) :
    Live :=
  pertOrd m ord time
    (compCheck m (chkReady m (chkRemoveOrd m oR (compCheck m (chkFinishedOrd m oF l)))))

/-- `stepBody` with the visiting order of `__check_working` (`oW`) as a parameter -/
def stepBodyOrd (m : Model) (oW : List Nat) (p : Params) (s : St) : St :=
  let working := !(p.absence.contains s.time)
  let l1 := absenceSet m s.time working s.live
  let l2 := if working then allocate m s.logs p.rule l1 else l1
  -- nothing starts at a project absence step unless automatic tasks are performed there
  let l3 := if working || p.autoFlag then chkWorkingOrd m oW l2 else l2
  let l4 := compCheck m l3
  let lg1 := cost m working l4 s.logs
  let l5 := perform m working p.autoFlag l4
  let lg2 := record m working l5 lg1
  { s with live := l5, logs := lg2, time := s.time + 1 }

/-- `initProject` with the iteration order of the PERT waves as a parameter -/
def initProjectOrd (m : Model) (ord : List Nat → List Nat) (stateInfo logInfo : Bool) (s : St) : St :=
  let s1 : St := if logInfo then
      { s with time := 0, status := .none, mode := .none, logs := clearLogs m s.logs } else s
  if stateInfo then
    let l1 := initLive m logInfo s1.live
    let l2 := { l1 with cpl := 0 }
    let l3 := pertOrd m ord 0 l2
    let l4 := chkReady m l3
    { s1 with live := initComps m l4 }
  else s1

/-- a choice of iteration orders: at every point where the library iterates over a `set`, the
order may be any function of the whole project state (memory layout is not modelled; letting the
order depend on the state covers "any order, possibly a different one each time") -/
structure Orders where
  /-- `__check_finished` -/
  fin : St → List Nat
  /-- `check_removing_placed_workplace` -/
  rem : St → List Nat
  /-- `__check_working` -/
  work : St → List Nat
  /-- the task sets of the PERT update -/
  pert : St → List Nat → List Nat

/-- every chosen order enumerates exactly the tasks (components) of the model — resp. the
members of the given set that are tasks of the model — in any order, with any multiplicity -/
def Orders.Valid (m : Model) (o : Orders) : Prop :=
  ∀ s, (∀ t, t ∈ o.fin s ↔ t < m.nT) ∧ (∀ c, c ∈ o.rem s ↔ c < m.nC) ∧
    (∀ t, t ∈ o.work s ↔ t < m.nT) ∧ OrdOK m.nT (o.pert s)

/-- the PERT waves are visited in the canonical (ascending index) order: `task_list` order, what
pDESy does since the repair F28 -/
def Orders.CanonPert (m : Model) (o : Orders) : Prop := ∀ s, o.pert s = canonSet m.nT

/-- `loop` with the iteration orders chosen by `o` -/
def loopOrd (m : Model) (o : Orders) (p : Params) : Nat → St → St
  | 0, s => s
  | fuel + 1, s =>
    let s1 := { s with live := updateOrd m (o.pert s) (o.fin s) (o.rem s) s.time s.live }
    if allFinished m s1.live then { s1 with status := .success }
    else if s1.time ≥ p.maxTime then { s1 with status := .failure }
    else loopOrd m o p fuel (stepBodyOrd m (o.work s1) p s1)

/-- `simulate` with the iteration orders chosen by `o` -/
def simulateOrd (m : Model) (o : Orders) (p : Params) (s : St) : St :=
  let s0 := initProjectOrd m (o.pert s) p.initState p.initLog s
  let s1 := { s0 with mode := .forward, absence := p.absence, autoFlag := p.autoFlag }
  loopOrd m o p (p.maxTime - s1.time + 1) s1

theorem mem_range_iff {n : Nat} {o : List Nat} (h : ∀ t, t ∈ o ↔ t < n) :
    ∀ t, t ∈ o ↔ t ∈ List.range n := by
  intro t; rw [h t, List.mem_range]

theorem updateOrd_eq_pertOrd {l : Live} (hl : AllocInv m l) (ord : List Nat → List Nat)
    (oF oR : List Nat) (hF : ∀ t, t ∈ oF ↔ t < m.nT) (hR : ∀ c, c ∈ oR ↔ c < m.nC) (time : Nat) :
    updateOrd m ord oF oR time l = pertOrd m ord time (Removal.upd0 m l) := by
  unfold updateOrd Removal.upd0 chkFinished chkRemove
  rw [chkFinishedOrd_congr hl oF (List.range m.nT) (mem_range_iff hF) (fun t ht => (hF t).mp ht),
    chkRemoveOrd_congr oR (List.range m.nC) (mem_range_iff hR)]

theorem updateOrd_canon {l : Live} (hl : AllocInv m l) (oF oR : List Nat)
    (hF : ∀ t, t ∈ oF ↔ t < m.nT) (hR : ∀ c, c ∈ oR ↔ c < m.nC) (time : Nat) :
    updateOrd m (canonSet m.nT) oF oR time l = update m time l := by
  rw [updateOrd_eq_pertOrd hl _ oF oR hF hR, pertOrd_canon]; rfl

theorem stepBodyOrd_eq (oW : List Nat) (hW : ∀ t, t ∈ oW ↔ t < m.nT) (p : Params) (s : St) :
    stepBodyOrd m oW p s = stepBody m p s := by
  unfold stepBodyOrd stepBody chkWorking
  simp only [chkWorkingOrd_congr oW (List.range m.nT) (mem_range_iff hW)]

theorem initProjectOrd_canon (stateInfo logInfo : Bool) (s : St) :
    initProjectOrd m (canonSet m.nT) stateInfo logInfo s = initProject m stateInfo logInfo s := by
  unfold initProjectOrd initProject
  simp only [pertOrd_canon]

theorem loopOrd_eq_of {o : Orders} (ho : o.Valid m) (I : Live → Prop)
    (hupd : ∀ (s : St), I s.live →
      updateOrd m (o.pert s) (o.fin s) (o.rem s) s.time s.live = update m s.time s.live)
    (hI1 : ∀ time l, I l → I (update m time l))
    (hI2 : ∀ (p : Params) (s : St), I s.live → I (stepBody m p s).live)
    (p : Params) (fuel : Nat) (s : St) (h : I s.live) : loopOrd m o p fuel s = loop m p fuel s := by
  induction fuel generalizing s with
  | zero => rfl
  | succ n ih =>
    rw [loop_succ, loopOrd]
    rw [hupd s h]
    exact ite3_last fun _ _ => by
      rw [stepBodyOrd_eq _ (ho _).2.2.1]
      exact ih _ (hI2 p { s with live := update m s.time s.live } (hI1 _ _ h))

theorem loopOrd_eq {o : Orders} (ho : o.Valid m) (hc : o.CanonPert m) (p : Params) (fuel : Nat)
    (s : St) (h : AllocInv m s.live ∧ HoldWorking s.live) :
    loopOrd m o p fuel s = loop m p fuel s :=
  loopOrd_eq_of ho (fun l => AllocInv m l ∧ HoldWorking l)
    (fun s h => by rw [hc s, updateOrd_canon h.1 _ _ (ho s).1 (ho s).2.1])
    (fun time _ h => AllocInv_update time h.1 h.2)
    (fun p s h => ⟨(AllocInv_stepBody p h.1 h.2).1, (AllocInv_stepBody p h.1 h.2).2.1⟩) p fuel s h

theorem simulateOrd_eq {o : Orders} (ho : o.Valid m) (hc : o.CanonPert m) (p : Params) (s : St)
    (h : AllocInv m (enter m p s).live ∧ HoldWorking (enter m p s).live) :
    simulateOrd m o p s = simulate m p s := by
  unfold simulateOrd
  rw [hc s, initProjectOrd_canon]
  exact loopOrd_eq ho hc p _ _ h

/-! #### finish-to-start networks: the PERT order is free as well -/

/-- the static hypotheses of the finish-to-start theorems -/
structure FSNet (m : Model) : Prop where
  fs : FSOnly m
  ok : GraphOK m
  acyc : Acyclic m
  pos : 0 < m.nT

theorem updateOrd_eq_fs (hn : FSNet m) {l : Live} (hl : AllocInv m l) (hr : Idem.RemOK m l)
    {ord : List Nat → List Nat} (ho : OrdOK m.nT ord) (oF oR : List Nat)
    (hF : ∀ t, t ∈ oF ↔ t < m.nT) (hR : ∀ c, c ∈ oR ↔ c < m.nC) (time : Nat) :
    updateOrd m ord oF oR time l = update m time l := by
  rw [updateOrd_eq_pertOrd hl _ oF oR hF hR,
    pertOrd_eq_pert ho hn.fs hn.ok hn.acyc hn.pos _ _ fun t ht =>
      (Removal.upd0_rem m l) ▸ Idem.chkFinished_rem_nonneg_noGate m (.of_fsOnly hn.fs) l hr t ht]
  rfl

theorem loopOrd_eq_fs (hn : FSNet m) {o : Orders} (ho : o.Valid m) (p : Params) (fuel : Nat)
    (s : St) (h : AllocInv m s.live ∧ HoldWorking s.live ∧ Idem.RemOK m s.live) :
    loopOrd m o p fuel s = loop m p fuel s :=
  loopOrd_eq_of ho (fun l => AllocInv m l ∧ HoldWorking l ∧ Idem.RemOK m l)
    (fun s h => updateOrd_eq_fs hn h.1 h.2.2 (ho s).2.2.2 _ _ (ho s).1 (ho s).2.1 _)
    (fun time l h => ⟨(AllocInv_update time h.1 h.2.1).1, (AllocInv_update time h.1 h.2.1).2,
      Idem.RemOK_update m time l h.2.2⟩)
    (fun p s h => ⟨(AllocInv_stepBody p h.1 h.2.1).1, (AllocInv_stepBody p h.1 h.2.1).2.1,
      Idem.RemOK_stepBody m p s h.2.2⟩) p fuel s h

theorem initProjectOrd_eq_fs (hn : FSNet m) (hw : Idem.WorkOK m) {ord : List Nat → List Nat}
    (ho : OrdOK m.nT ord) (stateInfo logInfo : Bool) (s : St) :
    initProjectOrd m ord stateInfo logInfo s = initProject m stateInfo logInfo s := by
  unfold initProjectOrd initProject
  have : ∀ l : Live, pertOrd m ord 0 { initLive m logInfo l with cpl := 0 } =
      pert m 0 { initLive m logInfo l with cpl := 0 } := fun l =>
    pertOrd_eq_pert ho hn.fs hn.ok hn.acyc hn.pos _ _ fun t ht =>
      Idem.initLive_rem_nonneg m hw logInfo l ht
  simp only [this]

theorem simulateOrd_eq_fs (hn : FSNet m) (hw : Idem.WorkOK m) {o : Orders} (ho : o.Valid m)
    (p : Params) (s : St)
    (h : AllocInv m (enter m p s).live ∧ HoldWorking (enter m p s).live ∧
      Idem.RemOK m (enter m p s).live) :
    simulateOrd m o p s = simulate m p s := by
  unfold simulateOrd
  rw [initProjectOrd_eq_fs hn hw (ho s).2.2.2]
  exact loopOrd_eq_fs hn ho p _ _ h

end PDesy.Order
