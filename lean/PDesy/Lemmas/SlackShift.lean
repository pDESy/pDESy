/-
  PDesy.Lemmas.SlackShift — C10 clause 3 under TSLACK on GENERAL acyclic networks (any mix of
  FS / SS / FF / SF links, negative remaining work of overshooting tasks included): the side
  conditions of its forms in Props/C10Slack.lean (`ModelOKw`, `NonNeg`, `SlackOK2`), the form of the
  removal theorem for a concrete pair of runs (`removal_dag_run`), and the witness models `cxM`,
  `cxM4`, `cxR` for the total slack `lst − est` of `update_PERT_data`, looked at `d` steps later.

  The witnesses record the repaired defect F30.  The backward pass tested "`lft` not calculated yet"
  by `pre_lft < 0`.  A task that is WORKING behind a closed FF / SF finish gate overshoots
  (`remaining_work_amount < 0`) and can get a genuinely negative `lft`, which any later relaxation
  then overwrote — at a small clock only, so the slack depended on the absolute time, and the three
  models were counterexamples to C10 clause 3 under TSLACK (replayed on the Python code).  The code
  now remembers the tasks it has set in the current pass (`calculated_task_set`; `Pert.done` in
  the model).  With that the slack of EVERY task changes by the SAME constant
  (`pert_slack_shift_dag`, Lemmas/PertShift.lean), so `sort_task_list(TSLACK)` orders the tasks in
  the same way.  The theorems here evaluate the models at the states where the order differed
  (`cx_slack`, `cx_order`) and where the constant is not `0` (`cxR_slack`).
-/
import PDesy.Lemmas.Removal
import PDesy.Lemmas.Fast

namespace PDesy
namespace SlackShift

open Idem PertSpec Removal

/-- `Removal.ModelOK` with the restriction on TSLACK as a parameter: `slack : rule = .tslack → S m`.
`ModelOK m rule` has the fields of `ModelOKw SlackOK m rule` (`modelOKw_of`). -/
structure ModelOKw (S : Model → Prop) (m : Model) (rule : TaskRule) : Prop where
  noInd : NoIndAbs m
  compNoAuto : CompNoAuto m
  wf : WF m
  notFifo : rule ≠ .fifo
  slack : rule = .tslack → S m

theorem modelOKw_of (m : Model) (rule : TaskRule) (h : ModelOK m rule) : ModelOKw SlackOK m rule :=
  ⟨h.noInd, h.compNoAuto, h.wf, h.notFifo, h.slack⟩

theorem ModelOKw.mono {S S' : Model → Prop} {m : Model} {rule : TaskRule} (h : ModelOKw S m rule)
    (hS : S m → S' m) : ModelOKw S' m rule :=
  ⟨h.noInd, h.compNoAuto, h.wf, h.notFifo, fun ht => hS (h.slack ht)⟩

/-- after `check_state(FINISHED)` of the next `__update` no task has negative remaining work -/
def NonNeg (m : Model) (a0 : St) : Prop := ∀ t, t < m.nT → 0 ≤ (upd0 m a0.live).rem t

/-- the restriction on TSLACK of the partial result: FS and SS links only, consistent, acyclic -/
def SlackOK2 (m : Model) : Prop := NoFinishGate m ∧ GraphOK m ∧ Acyclic m

/-- `Removal.removal_run` under `ModelOKw DagOK`, of which it uses `noInd`, `wf`, `notFifo` and
`slack` -/
theorem removal_dag_run {m : Model} {pA pB : Params} {s : St}
    (hsucc : (simulate m pA s).status = .success) (hB : pB = { pA with absence := [] })
    (hm : ModelOKw DagOK m pA.rule) (hl : pA.initLog = true) (hflag : pA.autoFlag = false) :
    (removeAbs m (simulate m pA s)).logs = (simulate m pB s).logs ∧
    (removeAbs m (simulate m pA s)).time = (simulate m pB s).time ∧
    (removeAbs m (simulate m pA s)).status = (simulate m pB s).status ∧
    (simulate m pB s).status = .success :=
  removal_run hsucc hB hm.noInd (sortAgree_of_notFifo m pA.rule hm.wf hm.notFifo hm.slack _) hl hflag

/-- Six tasks, two workers, no component, no workplace.

* `0 = K` work 1; `1 = G` work 2 and `2 = H` work 1, both finish-to-start after `K`;
* `3 = P` work 1 with a finish-to-finish link from `G` (`P` may start at once but cannot finish
  before `G` has finished);
* `4 = O1` automatic, work 3, start-to-start after `P`; `5 = O2` automatic, work 1,
  finish-to-start after `P`;
* worker `0` has skill 1 for `K`, `G`, `H`; worker `1` has skill 3 for `P`.

`P` is finished after one step of work (1 − 3 = −2) but stays WORKING behind its finish gate and
overshoots by 3 per step.  (Counterexample before the repair F30, absence list `[0]`.) -/
def cxM : Model where
  nT := 6
  nW := 2
  nF := 0
  nTeam := 1
  nWp := 0
  nC := 0
  task := fun t =>
    match t with
    | 0 => { name := 0, work := 1, outputs := [(1, .fs), (2, .fs)] }
    | 1 => { name := 1, work := 2, inputs := [(0, .fs)], outputs := [(3, .ff)] }
    | 2 => { name := 2, work := 1, inputs := [(0, .fs)] }
    | 3 => { name := 3, work := 1, inputs := [(1, .ff)], outputs := [(4, .ss), (5, .fs)] }
    | 4 => { name := 4, work := 3, isAuto := true, inputs := [(3, .ss)] }
    | _ => { name := 5, work := 1, isAuto := true, inputs := [(3, .fs)] }
  worker := fun w =>
    match w with
    | 0 => { team := 0, skills := [(0, 1), (1, 1), (2, 1)] }
    | _ => { team := 0, skills := [(3, 3)] }
  fac := fun _ => {}
  team := fun _ => { workers := [0, 1], targets := [0, 1, 2, 3, 4, 5] }
  wp := fun _ => {}
  comp := fun _ => {}

/-- the same with skill 4 for `P` (overshoot 4 per step): the stored value is `−2`, not the
marker `−1` itself -/
def cxM4 : Model :=
  { cxM with worker := fun w =>
      match w with
      | 0 => { team := 0, skills := [(0, 1), (1, 1), (2, 1)] }
      | _ => { team := 0, skills := [(3, 4)] } }

theorem cxM_graphOK : GraphOK cxM := by decide +kernel

theorem cxM_acyclic : Acyclic cxM := ⟨id, by decide +kernel⟩

theorem cxM_workOK : WorkOK cxM := by decide +kernel

/-- every side condition of `C10_removal` except "TSLACK only on finish-to-start networks", with
"consistent acyclic network" in its place -/
theorem cxM_ok (rule : TaskRule) (h : rule ≠ .fifo) : ModelOKw DagOK cxM rule :=
  ⟨by decide +kernel, fun _ _ ht => (nomatch ht), cxM_graphOK.wf, h,
    fun _ => ⟨cxM_graphOK, cxM_acyclic⟩⟩

theorem cxM4_ok (rule : TaskRule) (h : rule ≠ .fifo) : ModelOKw DagOK cxM4 rule :=
  ⟨by decide +kernel, fun _ _ ht => (nomatch ht), cxM_graphOK.wf, h,
    fun _ => ⟨cxM_graphOK, cxM_acyclic⟩⟩

/-- **All progress rates ≤ 1.**  Eight tasks, three workers (each task has at most one skilled
worker, every skill is ≤ 1, automatic tasks progress by 1 per step):

* `0 = K` work 1/2; `1 = g` work 2 and `2 = h` work 2, both finish-to-start after `K`;
* `3 = pv` work 1/4, finish-to-finish after `g`;
* `4 = o` work 0, finish-to-finish after `pv`;
* `5 = o2` automatic, work 1, finish-to-start after `pv`; `7 = o3` automatic, work 1,
  finish-to-start after `o2`;
* `6 = q` automatic, work 10, finish-to-start after `o`;
* worker `0`: skill 1/2 for `K`, 1 for `g` and `h`; worker `1`: skill 1 for `pv`; worker `2`:
  skill 1/8 for `o`.

`pv` and `o` overshoot (by 1 and by 1/8 per step) behind their finish gates.  The FS relaxation
`o → q` of the forward pass is then rejected and the tail `q` keeps the `eft` of the previous
`update_PERT_data`, so that `lst(q) < est(q)`; `lft(pv) = lst(o) + rem(pv)` along the FF link
`pv → o` is `−1/8` at time 1 in the run without absence and `7/8` at time 2 in the run with the
absence step 0 (before the repair F30 the first was misread as "unset"; counterexample then,
absence list `[0]`). -/
def cxR : Model where
  nT := 8
  nW := 3
  nF := 0
  nTeam := 1
  nWp := 0
  nC := 0
  task := fun t =>
    match t with
    | 0 => { name := 0, work := 1/2, outputs := [(1, .fs), (2, .fs)] }
    | 1 => { name := 1, work := 2, inputs := [(0, .fs)], outputs := [(3, .ff)] }
    | 2 => { name := 2, work := 2, inputs := [(0, .fs)] }
    | 3 => { name := 3, work := 1/4, inputs := [(1, .ff)], outputs := [(4, .ff), (5, .fs)] }
    | 4 => { name := 4, work := 0, inputs := [(3, .ff)], outputs := [(6, .fs)] }
    | 5 => { name := 5, work := 1, isAuto := true, inputs := [(3, .fs)], outputs := [(7, .fs)] }
    | 6 => { name := 6, work := 10, isAuto := true, inputs := [(4, .fs)] }
    | _ => { name := 7, work := 1, isAuto := true, inputs := [(5, .fs)] }
  worker := fun w =>
    match w with
    | 0 => { team := 0, skills := [(0, 1/2), (1, 1), (2, 1)] }
    | 1 => { team := 0, skills := [(3, 1)] }
    | _ => { team := 0, skills := [(4, 1/8)] }
  fac := fun _ => {}
  team := fun _ => { workers := [0, 1, 2], targets := [0, 1, 2, 3, 4, 5, 6, 7] }
  wp := fun _ => {}
  comp := fun _ => {}

theorem cxR_acyclic : Acyclic cxR := ⟨id, by decide +kernel⟩

theorem cxR_graphOK : GraphOK cxR := by decide +kernel

theorem cxR_workOK : WorkOK cxR := by decide +kernel

theorem cxR_ok (rule : TaskRule) (h : rule ≠ .fifo) : ModelOKw DagOK cxR rule :=
  ⟨by decide +kernel, fun _ _ ht => (nomatch ht), cxR_graphOK.wf, h,
    fun _ => ⟨cxR_graphOK, cxR_acyclic⟩⟩

/-- every skill of every worker of `cxR` is at most 1, and no task has two skilled workers -/
theorem cxR_rates :
    (∀ w ∈ [0, 1, 2], ∀ e ∈ (cxR.worker w).skills, e.2 ≤ 1) ∧
    (∀ t ∈ List.range 8, (([0, 1, 2] : List Nat).filter
      (fun w => hasSkill (cxR.worker w).skills (cxR.task t).name)).length ≤ 1) := by
  decide +kernel

/-- parameters of run A: absence step 0, rule TSLACK, flag off -/
def pA : Params := { absence := [0], maxTime := 40 }
/-- … and of run B: no absence -/
def pB : Params := { absence := [], maxTime := 40 }

/-- run B at the top of iteration 1 (one working step done) -/
def b1 : St := stepBody cxM pB (updated cxM (enter cxM pB St.fresh))

/-- run A at the top of iteration 2 (the absence step 0 and one working step done) -/
def a2 : St := stepBody cxM pA (updated cxM (stepBody cxM pA (updated cxM (enter cxM pA St.fresh))))

/-- the two states are related as `Removal.Sim` relates them: clocks one apart, and after `upd0` (the
part of `__update` before PERT) the same task states and the same remaining work
`[0, 2, 1, −2, 3, 1]` (`P` has overshot, `K` is FINISHED, `G`, `H`, `O1` are READY) -/
theorem cx_states :
    a2.time = b1.time + 1 ∧ b1.time = 1 ∧
    (List.range 6).map (upd0 cxM a2.live).rem = [0, 2, 1, -2, 3, 1] ∧
    (List.range 6).map (upd0 cxM b1.live).rem = [0, 2, 1, -2, 3, 1] ∧
    (List.range 6).map (upd0 cxM a2.live).tstate = [.finished, .ready, .ready, .working, .ready, .none] ∧
    (List.range 6).map (upd0 cxM b1.live).tstate = [.finished, .ready, .ready, .working, .ready, .none] := by
  simp only [a2, b1, Fast.stepBody_fast, Fast.updated_fast, Fast.enter_fast]; decide +kernel

/-- total slack of every task after `__update` -/
def slacks (l : Live) : List Rat := (List.range 6).map fun t => l.lst t - l.est t

/-- Run B (time 1) and run A (time 2, same remaining work) give the same slacks
`[0, 0, 2, 0, 0, 2]`; every `lft` of run A is that of run B plus 1, the negative
`lft(P) = lft(G) = −1` of run B included.  (Before the repair F30 the `lft(P) = −1` stored in run B
along the SS link from `O1` was taken for unset and overwritten along the FS link from `O2`: run B
had the slacks `[2, 4, 2, 4, 0, 2]`.) -/
theorem cx_slack :
    slacks (update cxM 1 b1.live) = [0, 0, 2, 0, 0, 2] ∧
    slacks (update cxM 2 a2.live) = [0, 0, 2, 0, 0, 2] ∧
    (List.range 6).map (update cxM 1 b1.live).lft = [1, -1, 4, -1, 4, 4] ∧
    (List.range 6).map (update cxM 2 a2.live).lft = [2, 0, 5, 0, 5, 5] := by
  simp only [a2, b1, Fast.update_fast, Fast.stepBody_fast, Fast.updated_fast, Fast.enter_fast]
  decide +kernel

/-- the READY / WORKING tasks `G, H, P, O1` are sorted `G, P, O1, H` in both runs (before the
repair F30 run B sorted them `O1, H, G, P` and gave the free worker `0` to `H` instead of `G`) -/
theorem cx_order :
    sortTasks cxM (update cxM 1 b1.live) b1.logs .tslack [1, 2, 3, 4] = [1, 3, 4, 2] ∧
    sortTasks cxM (update cxM 2 a2.live) a2.logs .tslack [1, 2, 3, 4] = [1, 3, 4, 2] := by
  simp only [a2, b1, Fast.update_fast, Fast.stepBody_fast, Fast.updated_fast, Fast.enter_fast]
  decide +kernel

/-- parameters of run A of `cxR`: absence step 1 -/
def pAR : Params := { absence := [1], maxTime := 80 }
/-- … and of run B: no absence -/
def pBR : Params := { absence := [], maxTime := 80 }
/-- run B of `cxR` at the top of iteration 1 (one working step done) -/
def bR : St := stepBody cxR pBR (updated cxR (enter cxR pBR St.fresh))
/-- run A of `cxR` at the top of iteration 2 (one working step and the absence step 1 done) -/
def aR : St := stepBody cxR pAR (updated cxR (stepBody cxR pAR (updated cxR (enter cxR pAR St.fresh))))

def slacks8 (l : Live) : List Rat := (List.range 8).map fun t => l.lst t - l.est t

/-- On reachable states the slack is shift invariant only up to a constant.  Same task states,
same remaining work `[0, 2, 2, −3/4, −1/8, 1, 10, 1]`, clocks 1 and 2.  The FS relaxation `o → q` of
the forward pass is rejected in both (`o` has overshot), the tail `q` keeps `eft = 21/2` from the
`update_PERT_data` at time 0, which is the critical path length in both runs; so every `lst` is the
same in both runs, every `est` is 1 later in run A, and every slack of run A is that of run B
minus 1.  The order of `sort_task_list(TSLACK)` is the same. -/
theorem cxR_slack :
    aR.time = bR.time + 1 ∧ bR.time = 1 ∧
    (List.range 8).map (upd0 cxR aR.live).rem = [0, 2, 2, -3/4, -1/8, 1, 10, 1] ∧
    (List.range 8).map (upd0 cxR bR.live).rem = [0, 2, 2, -3/4, -1/8, 1, 10, 1] ∧
    (update cxR 1 bR.live).cpl = 21/2 ∧ (update cxR 2 aR.live).cpl = 21/2 ∧
    slacks8 (update cxR 1 bR.live) = [-3/8, -3/8, 15/2, -3/8, -3/8, 15/2, -1/2, 15/2] ∧
    slacks8 (update cxR 2 aR.live) = [-11/8, -11/8, 13/2, -11/8, -11/8, 13/2, -3/2, 13/2] ∧
    sortTasks cxR (update cxR 1 bR.live) bR.logs .tslack [1, 2, 3, 4] = [1, 3, 4, 2] ∧
    sortTasks cxR (update cxR 2 aR.live) aR.logs .tslack [1, 2, 3, 4] = [1, 3, 4, 2] := by
  simp only [aR, bR, Fast.update_fast, Fast.stepBody_fast, Fast.updated_fast, Fast.enter_fast]
  decide +kernel

/-- the same with `pert` applied to ONE state at two times: the slack of task `K` is `−3/8` at
time 1 and `−11/8` at time 2 -/
theorem cxR_slack_same_state :
    (pert cxR (1 + 1) (upd0 cxR bR.live)).lst 0 - (pert cxR (1 + 1) (upd0 cxR bR.live)).est 0 ≠
      (pert cxR 1 (upd0 cxR bR.live)).lst 0 - (pert cxR 1 (upd0 cxR bR.live)).est 0 := by
  simp only [bR, Fast.pert_fast, Fast.stepBody_fast, Fast.updated_fast, Fast.enter_fast]; decide +kernel

/-! Nothing in the library rests on what follows; the names are end results of the development and stay. -/

/-- `cx_slack` with `pert` applied to ONE state at two times (the form of `C10_slack_shift`):
`l' = l`, `time = 1`, `d = 1`, task `G` -/
theorem cx_slack_same_state :
    (pert cxM (1 + 1) (upd0 cxM b1.live)).lst 1 - (pert cxM (1 + 1) (upd0 cxM b1.live)).est 1 =
      (pert cxM 1 (upd0 cxM b1.live)).lst 1 - (pert cxM 1 (upd0 cxM b1.live)).est 1 := by
  decide +kernel

theorem rem_nonneg_noGate (m : Model) (hng : NoFinishGate m) (l : Live) (h : RemOK m l) :
    ∀ t, t < m.nT → 0 ≤ (upd0 m l).rem t := fun t ht =>
  (upd0_rem m l) ▸ chkFinished_rem_nonneg_noGate m hng l h t ht

end SlackShift
end PDesy
