/-
  PDesy.Lemmas.Removal — clause 3: deleting the project-wide absence steps from the result of a run
  gives the result of the run without absence (C10).  Run A = the run with absence list `L`, run B
  = the run without.

  No phase of `__update` or of a step reads the PERT fields, except `pert`, which writes nothing
  else, and the task sort of `allocate`.  So as long as the two runs sort the tasks alike
  (`SortAgree`; the shift theorems of PertShift.lean give it for every rule but FIFO), a working
  step of both keeps their live states equal up to the PERT fields (`setP`) and appends the same
  row.  At an absence step (flag off) A only sets its resources to ABSENCE, which the next working
  step overwrites, and appends the row that `removeLogs` deletes; B does not move.  `run_sim` is
  this stuttering simulation.
-/
import PDesy.Lemmas.Idem
import PDesy.Lemmas.PertShift
import PDesy.Lemmas.Sort
import PDesy.Lemmas.Alloc
import PDesy.Lemmas.Perform
import PDesy.Lemmas.Edit
import PDesy.Lemmas.Logs

namespace PDesy
namespace Removal

open Idem Edit

/-- the rows one iteration appends: `cost` is charged on `l4` (the state before `perform`), `record`
shows `l5` (the state after it) -/
def addRow (m : Model) (wk : Bool) (l4 l5 : Live) (g : Logs) : Logs := record m wk l5 (cost m wk l4 g)

theorem addRow_get (m : Model) (wk : Bool) (l4 l5 : Live) (g : Logs) (k : LogKey) :
    (addRow m wk l4 l5 g).get k = if k.In m then g.get k ++ [rowVal m wk l4 l5 k] else g.get k :=
  record_cost_get ..

theorem removeLogs_addRow_keep (m : Model) (wk : Bool) (l4 l5 : Live) (s : St) (h : Aligned m s)
    (steps : List Nat) (hp : steps.Pairwise (· < ·)) (hlt : ∀ d ∈ steps, d < s.time) :
    removeLogs m steps (addRow m wk l4 l5 s.logs) = addRow m wk l4 l5 (removeLogs m steps s.logs) :=
  Logs.ext_get fun k => by
    by_cases hk : k.In m
    · simp only [removeLogs_get, addRow_get, if_pos hk, if_pos (LogKey.guard_in hk),
        List.length_append, List.length_singleton, h.get _ (LogKey.guard_in hk)]
      exact popBy_append_keep steps s.time _ _ hp hlt (h.get k hk)
    · simp only [removeLogs_get, addRow_get, if_neg hk]

theorem removeLogs_addRow_drop (m : Model) (wk : Bool) (l4 l5 : Live) (s : St) (h : Aligned m s)
    (steps : List Nat) :
    removeLogs m (steps ++ [s.time]) (addRow m wk l4 l5 s.logs) = removeLogs m steps s.logs :=
  Logs.ext_get fun k => by
    by_cases hk : k.In m
    · simp only [removeLogs_get, addRow_get, if_pos hk, if_pos (LogKey.guard_in hk),
        List.length_append, List.length_singleton, h.get _ (LogKey.guard_in hk)]
      exact popBy_append_drop steps s.time _ _ (h.get k hk)
    · simp only [removeLogs_get, addRow_get, if_neg hk]

/-- overwrite the five PERT fields of `l` by those of `q` -/
def setP (q : Live) (l : Live) : Live :=
  { l with est := q.est, eft := q.eft, lst := q.lst, lft := q.lft, cpl := q.cpl }

/-! ### every phase but `pert` and `allocate` commutes with `setP q` -/

section blindP
variable (m : Model) (q : Live)

theorem compCheck_setP (l : Live) : compCheck m (setP q l) = setP q (compCheck m l) := by
  rw [compCheck_eq, compCheck_eq]; rfl
theorem chkReady_setP (l : Live) : chkReady m (setP q l) = setP q (chkReady m l) := by
  rw [chkReady_eq, chkReady_eq]; rfl
theorem perform_setP (wk af : Bool) (l : Live) :
    perform m wk af (setP q l) = setP q (perform m wk af l) := by
  rw [perform_eq, perform_eq]; rfl

theorem releaseW_setP (t : Nat) (l : Live) (w : Nat) :
    releaseW t (setP q l) w = setP q (releaseW t l w) := by
  unfold releaseW
  rw [apply_ite (setP q)]; rfl

theorem releaseF_setP (t : Nat) (l : Live) (w : Nat) :
    releaseF t (setP q l) w = setP q (releaseF t l w) := by
  unfold releaseF
  rw [apply_ite (setP q)]; rfl

/-- `finishOne` in three pieces -/
def finMark (t : Nat) (l : Live) : Live :=
  { l with tstate := upd l.tstate t .finished, rem := upd l.rem t 0 }
def finFreeW (t : Nat) (l : Live) : Live :=
  { (l.allocW t).foldl (releaseW t) l with allocW := upd ((l.allocW t).foldl (releaseW t) l).allocW t [] }
def finFreeF (m : Model) (t : Nat) (l : Live) : Live :=
  if (m.task t).needFac then
    { (l.allocF t).foldl (releaseF t) l with allocF := upd ((l.allocF t).foldl (releaseF t) l).allocF t [] }
  else l

theorem finFreeW_setP (t : Nat) (l : Live) : finFreeW t (setP q l) = setP q (finFreeW t l) := by
  unfold finFreeW
  rw [List.foldl_hom (setP q) (releaseW_setP q t)]; rfl

theorem finFreeF_setP (t : Nat) (l : Live) : finFreeF m t (setP q l) = setP q (finFreeF m t l) := by
  unfold finFreeF
  rw [List.foldl_hom (setP q) (releaseF_setP q t), apply_ite (setP q)]; rfl

theorem finishOne_setP (l : Live) (t : Nat) : finishOne m (setP q l) t = setP q (finishOne m l t) := by
  show finFreeF m t (finFreeW t (finMark t (setP q l))) = setP q (finFreeF m t (finFreeW t (finMark t l)))
  rw [← finFreeF_setP, ← finFreeW_setP]; rfl

theorem chkFinished_setP (l : Live) : chkFinished m (setP q l) = setP q (chkFinished m l) := by
  have hstep : ∀ b x, Finish.finStep m (setP q b) x = setP q (Finish.finStep m b x) := fun b x => by
    unfold Finish.finStep
    rw [apply_ite (setP q), finishOne_setP]; rfl
  have hpass : ∀ b, finishPass m (List.range m.nT) (setP q b) = setP q (finishPass m (List.range m.nT) b) :=
    fun b => List.foldl_hom (setP q) hstep
  rw [Finish.chkFinished_fold, Finish.chkFinished_fold]
  generalize m.nT + 1 = fuel
  induction fuel generalizing l with
  | zero => rfl
  | succ n ih =>
    simp only [finishClosure]
    -- the exit test counts FINISHED tasks, which `setP q` does not touch
    rw [hpass, apply_ite (setP q), ← ih]; rfl

theorem removeOne_setP (l : Live) (c : Nat) : removeOne (setP q l) c = setP q (removeOne l c) := by
  unfold removeOne
  -- the `match` is on `placed`, which `setP` does not touch
  rw [show (setP q l).placed = l.placed from rfl]
  cases l.placed c <;> rfl

theorem chkRemove_setP (l : Live) : chkRemove m (setP q l) = setP q (chkRemove m l) := by
  rw [chkRemove_fold, chkRemove_fold]
  exact List.foldl_hom (setP q) (removeOne_setP q)

theorem upd0_setP (l : Live) : upd0 m (setP q l) = setP q (upd0 m l) := by
  unfold upd0
  rw [chkFinished_setP, compCheck_setP, chkRemove_setP, chkReady_setP, compCheck_setP]

theorem startOne_setP (l : Live) (t : Nat) : startOne m (setP q l) t = setP q (startOne m l t) := by
  rw [startOne_eq, startOne_eq]; rfl

theorem chkWorking_setP (l : Live) : chkWorking m (setP q l) = setP q (chkWorking m l) := by
  rw [chkWorking_fold, chkWorking_fold]
  exact List.foldl_hom (setP q) (startOne_setP m q)

end blindP

/-- a modification `h` of live states that the allocation pass cannot see (on states satisfying
`P`, which is `fun _ => True` in every use) -/
structure ABlind (m : Model) (h : Live → Live) (P : Live → Prop) : Prop where
  giveW : ∀ l t w, giveW (h l) t w = h (giveW l t w)
  giveF : ∀ l t f, giveF (h l) t f = h (giveF l t f)
  moveComp : ∀ l c p, moveComp (h l) c p = h (moveComp l c p)
  pGiveW : ∀ l t w, P l → P (PDesy.giveW l t w)
  pGiveF : ∀ l t f, P l → P (PDesy.giveF l t f)
  pMove : ∀ l c p, P l → P (PDesy.moveComp l c p)
  canAdd : ∀ l t w f, P l → canAdd m (h l) t w f = canAdd m l t w f
  isReady : ∀ l c, P l → isReady m (h l) c = isReady m l c
  placeOk : ∀ l t c p, placeOk m (h l) t c p = placeOk m l t c p
  sortWps : ∀ l r n ps, sortWps m (h l) r n ps = sortWps m l r n ps
  placed : ∀ l, (h l).placed = l.placed
  fstate : ∀ l, (h l).fstate = l.fstate

def liftA (h : Live → Live) (a : Alloc) : Alloc := { a with l := h a.l }

theorem liftA_l (h : Live → Live) (a : Alloc) : (liftA h a).l = h a.l := rfl

section ablind
variable {m : Model} {h : Live → Live} (B : ABlind m h (fun _ => True))
include B

theorem placeStep_blind (t : Nat) (l : Live) : placeStep m t (h l) = h (placeStep m t l) := by
  unfold PDesy.placeStep
  cases (m.task t).comp with
  | none => rfl
  | some c =>
    simp only [B.isReady l c trivial, B.sortWps, funext (B.placeOk l t c)]
    split
    · cases List.find? (placeOk m l t c) (sortWps m l (m.task t).wpRule (m.task t).name (m.task t).wps) with
      | none => rfl
      | some p => exact B.moveComp l c p
    · rfl

theorem placeMoves_blind (t : Nat) (l : Live) : placeMoves m t (h l) = placeMoves m t l := by
  unfold PDesy.placeMoves
  cases (m.task t).comp with
  | none => rfl
  | some c => simp only [B.isReady l c trivial, B.sortWps, funext (B.placeOk l t c)]

theorem allocHead_blind (a : Alloc) (t : Nat) :
    allocHead m (liftA h a) t = liftA h (allocHead m a t) := by
  unfold allocHead
  rw [show (liftA h a).moved = a.moved from rfl, liftA_l, placeStep_blind B, placeMoves_blind B,
    apply_ite (liftA h)]
  rfl

theorem wStep_blind (t : Nat) (acc : Alloc) (w : Nat) :
    wStep m t (liftA h acc) w = liftA h (wStep m t acc w) := by
  unfold wStep
  rw [liftA_l, B.canAdd acc.l t _ _ trivial, apply_ite (liftA h)]
  show (if _ then ({ l := PDesy.giveW (h acc.l) t w, free := _, moved := _ } : Alloc) else _) = _
  rw [B.giveW]; rfl

theorem pStep_blind (t p : Nat) (acc : Alloc) (f : Nat) :
    pStep m t p (liftA h acc) f = liftA h (pStep m t p acc f) := by
  have e : pairWorkers m t (liftA h acc) f = pairWorkers m t acc f := by
    unfold pairWorkers
    simp only [liftA_l, B.canAdd acc.l t _ _ trivial]
    rfl
  unfold pStep
  rw [e]
  cases sortWorkers m (m.task t).wRule (m.task t).name (some p) (pairWorkers m t acc f) with
  | nil => rfl
  | cons w ws =>
    show ({ l := PDesy.giveF (PDesy.giveW (h acc.l) t w) t f, free := _, moved := _ } : Alloc) = _
    rw [B.giveW, B.giveF]; rfl

theorem allocTask_blind (acc : Alloc) (t : Nat) :
    allocTask m (liftA h acc) t = liftA h (allocTask m acc t) := by
  have hW : ∀ a, allocWorkers m t (liftA h a) = liftA h (allocWorkers m t a) := fun a => by
    rw [allocWorkers_fold, allocWorkers_fold]
    exact List.foldl_hom (liftA h)
      (init := { a with free := sortWorkers m (m.task t).wRule (m.task t).name Option.none a.free })
      (wStep_blind B t)
  have hP : ∀ a, allocPairs m t (liftA h a) = liftA h (allocPairs m t a) := fun a => by
    rw [allocPairs_eq, allocPairs_eq]
    cases (m.task t).comp with
    | none => rfl
    | some c =>
      simp only [liftA_l, B.placed]
      cases a.l.placed c with
      | none => rfl
      | some p =>
        have : pairFacs m t p (h a.l) = pairFacs m t p a.l := by unfold pairFacs; rw [B.fstate]
        simp only [this]
        exact List.foldl_hom (liftA h) (pStep_blind B t p)
  rw [allocTask_eq, allocTask_eq, allocHead_blind B, apply_ite (liftA h), apply_ite (liftA h), hP, hW]

theorem allocate_blind (lg lg' : Logs) (rule : TaskRule) (l : Live)
    (hc : NoWait.cands m (h l) = NoWait.cands m l)
    (hs : sortTasks m (h l) lg' rule (NoWait.cands m l) = sortTasks m l lg rule (NoWait.cands m l))
    (hw : (h l).wstate = l.wstate) :
    allocate m lg' rule (h l) = h (allocate m lg rule l) := by
  have hf : Elig.freeOf m (h l) = Elig.freeOf m l := by unfold Elig.freeOf; rw [hw]
  rw [allocate_fold, allocate_fold, hc, hs, hf]
  exact congrArg Alloc.l (List.foldl_hom (liftA h) (init := { l := l, free := Elig.freeOf m l })
    (allocTask_blind B))
end ablind

theorem moveComp_setP (q l : Live) (c p : Nat) :
    moveComp (setP q l) c p = setP q (moveComp l c p) := by
  unfold moveComp
  rw [show (setP q l).placed = l.placed from rfl]
  cases l.placed c <;> (dsimp only; rw [apply_ite (setP q)]; rfl)

theorem ablind_setP (m : Model) (q : Live) : ABlind m (setP q) (fun _ => True) where
  giveW := fun _ _ _ => rfl
  giveF := fun _ _ _ => rfl
  moveComp := moveComp_setP q
  pGiveW := fun _ _ _ _ => trivial
  pGiveF := fun _ _ _ _ => trivial
  pMove := fun _ _ _ _ => trivial
  canAdd := fun _ _ _ _ _ => rfl
  isReady := fun _ _ _ => rfl
  placeOk := fun _ _ _ _ => rfl
  sortWps := fun _ _ _ _ => rfl
  placed := fun _ => rfl
  fstate := fun _ => rfl

/-- `allocate` does not read the PERT fields except through the order of the tasks -/
theorem allocate_setP (m : Model) (lg lg' : Logs) (rule : TaskRule) (q l : Live)
    (hle : ∀ a b, a < m.nT → b < m.nT → taskLe m (setP q l) lg' rule a b = taskLe m l lg rule a b) :
    allocate m lg' rule (setP q l) = setP q (allocate m lg rule l) :=
  allocate_blind (ablind_setP m q) lg lg' rule l rfl
    (Sort.sortBy_congr _ _ _ fun a ha b hb => hle a b (NoWait.mem_cands.mp ha).1 (NoWait.mem_cands.mp hb).1)
    rfl

/-- The live state `a` of run A against the live state `b` of run B (both at the `updated`
boundary): task states, remaining work, allocations, assignments, components and placement
equal; resource states equal outside the index ranges (inside, the next `absenceSet`
recomputes them).  Nothing is said about the PERT fields. -/
structure LRel (m : Model) (a b : Live) : Prop where
  ts : a.tstate = b.tstate
  rem : a.rem = b.rem
  allocW : a.allocW = b.allocW
  allocF : a.allocF = b.allocF
  wasg : a.wasg = b.wasg
  fasg : a.fasg = b.fasg
  cstate : a.cstate = b.cstate
  placed : a.placed = b.placed
  wpComps : a.wpComps = b.wpComps
  wout : ∀ w, ¬ w < m.nW → a.wstate w = b.wstate w
  fout : ∀ f, ¬ f < m.nF → a.fstate f = b.fstate f

theorem LRel.refl (m : Model) (l : Live) : LRel m l l :=
  ⟨rfl, rfl, rfl, rfl, rfl, rfl, rfl, rfl, rfl, fun _ _ => rfl, fun _ _ => rfl⟩

/-- related states whose resource states are overwritten alike differ in the PERT fields only -/
theorem LRel.eq_setP {m : Model} {a b : Live} (h : LRel m a b) {w w' f f' : Nat → RS}
    (hw : w = w') (hf : f = f') :
    { a with wstate := w, fstate := f } = setP a { b with wstate := w', fstate := f' } := by
  obtain ⟨h1, h2, h3, h4, h5, h6, h7, h8, h9, -, -⟩ := h
  cases a; cases b
  simp only at h1 h2 h3 h4 h5 h6 h7 h8 h9
  subst hw hf h1 h2 h3 h4 h5 h6 h7 h8 h9
  rfl

protected theorem LRel.setP {m : Model} {a b : Live} (h : LRel m a b) (q q' : Live) :
    LRel m (setP q a) (setP q' b) :=
  ⟨h.ts, h.rem, h.allocW, h.allocF, h.wasg, h.fasg, h.cstate, h.placed, h.wpComps, h.wout, h.fout⟩

/-- the case `q' = b`: `setP b b` is `b` -/
theorem LRel.setP_left {m : Model} {a b : Live} (h : LRel m a b) (q : Live) : LRel m (setP q a) b :=
  h.setP q b

/-- the relation says nothing about the resource states in range, which are all `absenceSet` writes -/
theorem LRel.absenceSet_left {m : Model} {a b : Live} (h : LRel m a b) (τ : Nat) (wk : Bool) :
    LRel m (absenceSet m τ wk a) b := by
  rw [absenceSet_eq]
  exact ⟨h.ts, h.rem, h.allocW, h.allocF, h.wasg, h.fasg, h.cstate, h.placed, h.wpComps,
    fun w hw => (if_neg hw).trans (h.wout w hw), fun f hf => (if_neg hf).trans (h.fout f hf)⟩

theorem pert_eq_setP (m : Model) (τ : Nat) (l : Live) : pert m τ l = setP (pert m τ l) l :=
  pert_frame m τ l

/-- no worker and no facility has an absence list of its own -/
def NoIndAbs (m : Model) : Prop :=
  (∀ w, w < m.nW → (m.worker w).absence = []) ∧ (∀ f, f < m.nF → (m.fac f).absence = [])

instance (m : Model) : Decidable (NoIndAbs m) := by unfold NoIndAbs; infer_instance

/-- without individual absences, `absenceSet` at a working step makes the resource states of
related states equal: the two states then differ in the PERT fields only -/
theorem absenceSet_rel (m : Model) (hab : NoIndAbs m) (a b : Live) (h : LRel m a b) (τA τB : Nat) :
    absenceSet m τA true a = setP a (absenceSet m τB true b) := by
  rw [absenceSet_eq, absenceSet_eq]
  refine h.eq_setP (funext fun w => ?_) (funext fun f => ?_)
  · by_cases hw : w < m.nW
    · simp only [if_pos hw, if_true, hab.1 w hw, h.wasg]; rfl
    · exact (if_neg hw).trans ((h.wout w hw).trans (if_neg hw).symm)
  · by_cases hf : f < m.nF
    · simp only [if_pos hf, if_true, hab.2 f hf, h.fasg]; rfl
    · exact (if_neg hf).trans ((h.fout f hf).trans (if_neg hf).symm)

theorem addRow_setP (m : Model) (wk : Bool) (q l4 l5 : Live) (g : Logs) :
    addRow m wk (setP q l4) (setP q l5) g = addRow m wk l4 l5 g := by
  -- unfolded first, not a bare `rfl`: see the header of Lemmas/Frame
  unfold addRow record cost; rfl

theorem stepBody_logs_row (m : Model) (p : Params) (s : St) :
    (stepBody m p s).logs = addRow m (!(p.absence.contains s.time)) (stepBody m p s).live
      (stepBody m p s).live s.logs := by
  rw [Logs.stepBody_logs, Logs.row, stepBody_time, Nat.add_sub_cancel]; rfl

/-- **a working step of both runs**: A's step gives the live state B's step gives, with A's PERT
fields (which a step does not touch) -/
theorem stepBody_working (m : Model) (hab : NoIndAbs m) (pA pB : Params) (hrule : pB.rule = pA.rule)
    (haf : pB.autoFlag = pA.autoFlag) (sA sB : St) (hwA : pA.absence.contains sA.time = false)
    (hwB : pB.absence.contains sB.time = false) (h : LRel m sA.live sB.live)
    (hle : ∀ x y, x < m.nT → y < m.nT →
      taskLe m (setP sA.live sB.live) sA.logs pA.rule x y = taskLe m sB.live sB.logs pA.rule x y) :
    (stepBody m pA sA).live = setP sA.live (stepBody m pB sB).live := by
  rw [Perform.stepBody_live_preCost, Perform.stepBody_live_preCost, Perform.preCost_on pA sA hwA,
    Perform.preCost_on pB sB hwB, hwA, hwB, hrule, haf]
  -- `hle` speaks of `sB.live`, the pass runs on `absenceSet … sB.live`: the sort key reads no resource state
  rw [absenceSet_rel m hab _ _ h sA.time sB.time,
    allocate_setP m sB.logs sA.logs pA.rule sA.live (absenceSet m sB.time true sB.live) hle,
    chkWorking_setP, compCheck_setP, perform_setP]

theorem update_rel_setP (m : Model) (q z : Live) (τ τ' : Nat) :
    LRel m (update m τ (setP q z)) (update m τ' z) := by
  rw [update_eq, update_eq, upd0_setP, pert_eq_setP m τ, pert_eq_setP m τ']
  exact ((LRel.refl m _).setP_left q).setP _ _

/-- the fixpoint of `__update` does not read resource states -/
theorem UpdFix_absenceSet {m : Model} {a : Live} (hu : UpdFix m a) (τ : Nat) (wk : Bool) :
    UpdFix m (absenceSet m τ wk a) := by
  rw [absenceSet_eq]; exact hu.congr m rfl rfl rfl rfl

/-- **an absence step of run A** (flag off): every resource in range becomes ABSENCE and nothing else
changes — from any state `__update` has left (`hu`), since `product.check_state` has nothing to do there -/
theorem stepBody_absence (m : Model) (p : Params) (s : St) (hc : p.absence.contains s.time = true)
    (hflag : p.autoFlag = false) (hu : UpdFix m s.live) :
    (stepBody m p s).live = absenceSet m s.time false s.live := by
  rw [Perform.stepBody_inactive p s hc hflag, (UpdFix_absenceSet hu s.time false).comp]

/-- **the simulation relation**, between the state `a0` of run A (absence list `L`) and the state
`b0` of run B (no absence), both at the top of an iteration: the `updated` live states are
related by `LRel`; B's clock is A's minus the number of absence steps executed so far; B's logs
are A's with the rows of those steps deleted. -/
structure Sim (m : Model) (L : List Nat) (a0 b0 : St) : Prop where
  live : LRel m (update m a0.time a0.live) (update m b0.time b0.live)
  time : a0.time = b0.time + (stepsBelow a0.time L).length
  logs : removeLogs m (stepsBelow a0.time L) a0.logs = b0.logs
  alignA : Aligned m a0

theorem taskKey_setP (m : Model) (q l : Live) (lg : Logs) (rule : TaskRule) (t : Nat)
    (h : l.rem = q.rem) : taskKey m (setP q l) lg rule t = taskKey m q lg rule t := by
  cases rule
  case lrpt | srpt => exact congrFun h t
  all_goals rfl

theorem taskLe_setP (m : Model) (q l : Live) (lg : Logs) (rule : TaskRule) (x y : Nat)
    (h : l.rem = q.rem) : taskLe m (setP q l) lg rule x y = taskLe m q lg rule x y := by
  unfold taskLe
  rw [taskKey_setP m q l lg rule x h, taskKey_setP m q l lg rule y h]

/-- the two runs sort the tasks alike at related states: all that a working step needs of the
PERT data -/
def SortAgree (m : Model) (rule : TaskRule) (L : List Nat) : Prop :=
  ∀ a0 b0, Sim m L a0 b0 → ∀ (lgA lgB : Logs) (x y : Nat), x < m.nT → y < m.nT →
    taskLe m (setP (update m a0.time a0.live) (update m b0.time b0.live)) lgA rule x y =
      taskLe m (update m b0.time b0.live) lgB rule x y

/-- no component lists an automatic task -/
def CompNoAuto (m : Model) : Prop := ∀ c, ∀ t ∈ (m.comp c).tasks, (m.task t).isAuto = false

/-- the side conditions of `C10_removal` on the model; no proof uses `compNoAuto` -/
structure ModelOK (m : Model) (rule : TaskRule) : Prop where
  noInd : NoIndAbs m
  compNoAuto : CompNoAuto m
  wf : WF m
  notFifo : rule ≠ .fifo
  slack : rule = .tslack → SlackOK m

/-- FIFO is excluded for a reason: its key counts READY log entries, which absence steps inflate (F16) -/
theorem sortAgree_of_notFifo (m : Model) (rule : TaskRule) (hwf : WF m) (hrule : rule ≠ .fifo)
    (hsl : rule = .tslack → SlackShift.DagOK m) (L : List Nat) : SortAgree m rule L := by
  intro a0 b0 h lgA lgB x y hx hy
  -- the comparison at related states is one `pert` against the same `pert` some steps later
  rw [taskLe_setP m _ _ lgA rule x y h.live.rem.symm, update_eq, update_eq, h.time]
  -- `h.live.rem` is about `update … = pert … (upd0 …)`; `pert` copies `rem`, so it serves for `upd0` by unfolding
  exact SlackShift.taskLe_pert_shift_dag hwf rule hrule (upd0 m b0.live) (upd0 m a0.live)
    h.live.rem hsl b0.time _ lgB lgA x y hx hy

theorem sortAgree_of_modelOK (m : Model) (rule : TaskRule) (hm : ModelOK m rule) (L : List Nat) :
    SortAgree m rule L :=
  sortAgree_of_notFifo m rule hm.wf hm.notFifo (fun ht => (hm.slack ht).2) L

theorem sim_working (m : Model) (pA pB : Params) (hab : NoIndAbs m)
    (hsort : SortAgree m pA.rule pA.absence) (hrule : pB.rule = pA.rule)
    (haf : pB.autoFlag = pA.autoFlag) (hB : pB.absence = [])
    (a0 b0 : St) (h : Sim m pA.absence a0 b0) (hw : pA.absence.contains a0.time = false) :
    Sim m pA.absence (stepBody m pA (updated m a0)) (stepBody m pB (updated m b0)) := by
  have hwB : pB.absence.contains (updated m b0).time = false := by rw [hB]; rfl
  have hlive := stepBody_working m hab pA pB hrule haf (updated m a0) (updated m b0) hw hwB h.live
    (hsort a0 b0 h _ _)
  have hsteps : stepsBelow (a0.time + 1) pA.absence = stepsBelow a0.time pA.absence := by
    rw [stepsBelow_succ, hw]; exact List.append_nil _
  refine ⟨?_, ?_, ?_, Bwd.aligned_sub_step (.refl m) _
    (h.alignA.congr (Logs.updated_logs _) (Logs.updated_time _))⟩
  · rw [hlive]
    exact update_rel_setP m _ _ _ _
  · rw [stepBody_time, stepBody_time, Logs.updated_time, Logs.updated_time, hsteps, Nat.add_right_comm, ← h.time]
  · -- both steps append the row of B's live state: a row does not show the PERT fields
    rw [stepBody_time, Logs.updated_time, hsteps, stepBody_logs_row, stepBody_logs_row m pB, hlive,
      addRow_setP, Logs.updated_time, hw, hwB, Logs.updated_logs, Logs.updated_logs, ← h.logs]
    exact removeLogs_addRow_keep m true _ _ a0 h.alignA _ (stepsBelow_pairwise _ _)
      (fun d hd => (mem_stepsBelow.1 hd).1)

/-- B does not move.  No condition on the model, no further invariant of run A. -/
theorem sim_absence (m : Model) (pA : Params) (hflag : pA.autoFlag = false) (a0 b0 : St)
    (h : Sim m pA.absence a0 b0) (hc : pA.absence.contains a0.time = true) :
    Sim m pA.absence (stepBody m pA (updated m a0)) b0 := by
  have hu : UpdFix m (updated m a0).live := updated_live m a0 ▸ UpdFix_update m a0.time a0.live
  have hlive := stepBody_absence m pA (updated m a0) hc hflag hu
  have hsteps : stepsBelow (a0.time + 1) pA.absence = stepsBelow a0.time pA.absence ++ [a0.time] := by
    rw [stepsBelow_succ, if_pos hc]
  refine ⟨?_, ?_, ?_, Bwd.aligned_sub_step (.refl m) _
    (h.alignA.congr (Logs.updated_logs _) (Logs.updated_time _))⟩
  · -- the `__update` after the step finds nothing to do but the PERT data
    rw [hlive, update_eq, (UpdFix_absenceSet hu _ _).upd0_eq, pert_eq_setP, updated_live]
    exact (h.live.absenceSet_left _ _).setP_left _
  · rw [stepBody_time, Logs.updated_time, hsteps, List.length_append, List.length_singleton,
      ← Nat.add_assoc, ← h.time]
  · rw [stepBody_time, Logs.updated_time, hsteps, stepBody_logs_row, Logs.updated_logs]
    exact (removeLogs_addRow_drop m _ _ _ a0 h.alignA _).trans h.logs

structure EndRel (m : Model) (L : List Nat) (rA rB : St) : Prop where
  status : rB.status = .success
  time : rA.time = rB.time + (stepsBelow rA.time L).length
  logs : removeLogs m (stepsBelow rA.time L) rA.logs = rB.logs
  align : Aligned m rA

/-- **the stuttering simulation**: if run A ends with SUCCESS, run B ends with SUCCESS too, `d` steps
earlier, with the logs of A minus the rows of the `d` absence steps A executed.  `R` is a variable
because `C10_removal_of_absence_step` is stated for `Rel` (below `removal`) and a further invariant `J`
of run A; `removal_of_sim` is its use. -/
theorem run_sim (m : Model) (pA pB : Params) (hmax : pB.maxTime = pA.maxTime) (R : St → St → Prop)
    (hR : ∀ a b, R a b → Sim m pA.absence a b)
    (hwork : ∀ a b, R a b → pA.absence.contains a.time = false →
      R (stepBody m pA (updated m a)) (stepBody m pB (updated m b)))
    (habs : ∀ a b, R a b → pA.absence.contains a.time = true → R (stepBody m pA (updated m a)) b)
    (a0 : St) : ∀ b0, R a0 b0 → (run m pA a0).status = .success →
      EndRel m pA.absence (run m pA a0) (run m pB b0) := by
  induction a0 using run_induct m pA with
  | step a0 ih =>
    intro b0 h hs
    have hS := hR a0 b0 h
    have hfin : allFinished m (updated m a0).live = allFinished m (updated m b0).live := by
      rw [updated_live, updated_live]; unfold allFinished; rw [hS.live.ts]
    rw [run_step m pA a0] at hs ⊢
    by_cases hA : allFinished m (updated m a0).live = true
    · rw [if_pos hA, run_step m pB b0, if_pos (hfin ▸ hA)]
      -- unfolded first: matching `(updated m a0).time` with `a0.time` otherwise tries `updated m a0 =?= a0`
      unfold updated
      exact ⟨rfl, hS.time, hS.logs, hS.alignA.congr rfl rfl⟩
    · rw [if_neg hA] at hs ⊢
      by_cases hT : a0.time ≥ pA.maxTime
      · rw [if_pos hT] at hs
        cases hs
      · rw [if_neg hT] at hs ⊢
        cases hc : pA.absence.contains a0.time
        · -- a working step of both runs
          -- B's clock is behind A's
          rw [run_step m pB b0, if_neg (hfin ▸ hA), if_neg fun hb : b0.time ≥ pB.maxTime =>
            hT (Nat.le_trans (hmax ▸ hb) (hS.time ▸ Nat.le_add_right _ _))]
          exact ih hT _ (hwork a0 b0 h hc) hs
        · -- an absence step of run A
          exact ih hT b0 (habs a0 b0 h hc) hs

theorem enter_sim (m : Model) (p : Params) (L : List Nat) (s : St) (hl : p.initLog = true) :
    Sim m L (enter m { p with absence := L } s) (enter m { p with absence := [] } s) := by
  have ht : (enter m { p with absence := L } s).time = 0 := Logs.enter_time s hl
  have htB : (enter m { p with absence := [] } s).time = 0 := Logs.enter_time s hl
  have hlg : (enter m { p with absence := L } s).logs = (enter m { p with absence := [] } s).logs := rfl
  refine ⟨LRel.refl m _, ?_, ?_, Bwd.aligned_sub_enter s (Or.inl hl)⟩
  · rw [ht, htB]; rfl
  · rw [ht, stepsBelow_zero, removeLogs_nil, hlg]

theorem removeAbs_of_endRel {m : Model} {L : List Nat} {rA rB : St} (h : EndRel m L rA rB)
    (hab : rA.absence = L) (hsA : rA.status = .success) :
    (removeAbs m rA).logs = rB.logs ∧ (removeAbs m rA).time = rB.time ∧
      (removeAbs m rA).status = rB.status ∧ rB.status = .success := by
  have e : stepsBelow rA.logs.projCost.length rA.absence = stepsBelow rA.time L := by
    rw [h.align.projCost, hab]
  unfold removeAbs
  rw [e]
  exact ⟨h.logs, Nat.sub_eq_of_eq_add h.time, hsA.trans h.status.symm, h.status⟩

/-- **C10, clause 3, from any relation between the two runs that `run_sim` accepts** -/
theorem removal_of_sim (m : Model) (p : Params) (L : List Nat) (s : St) (R : St → St → Prop)
    (hR : ∀ a b, R a b → Sim m L a b)
    (hwork : ∀ a b, R a b → L.contains a.time = false →
      R (stepBody m { p with absence := L } (updated m a))
        (stepBody m { p with absence := [] } (updated m b)))
    (habs : ∀ a b, R a b → L.contains a.time = true →
      R (stepBody m { p with absence := L } (updated m a)) b)
    (h0 : R (enter m { p with absence := L } s) (enter m { p with absence := [] } s))
    (hsucc : (simulate m { p with absence := L } s).status = .success) :
    (removeAbs m (simulate m { p with absence := L } s)).logs = (simulate m { p with absence := [] } s).logs ∧
    (removeAbs m (simulate m { p with absence := L } s)).time = (simulate m { p with absence := [] } s).time ∧
    (removeAbs m (simulate m { p with absence := L } s)).status =
      (simulate m { p with absence := [] } s).status ∧
    (simulate m { p with absence := [] } s).status = .success :=
  removeAbs_of_endRel
    (run_sim m { p with absence := L } { p with absence := [] } rfl R hR hwork habs _ _ h0 hsucc)
    (simulate_absence ..) hsucc

/-- **C10, clause 3, what it needs**: no individual absences, the two runs sort the tasks alike
(`SortAgree`), logs cleared at the start, flag off.  Neither `WorkOK` nor `initState = true` nor
`CompNoAuto` is needed. -/
theorem removal_sortAgree (m : Model) (p : Params) (L : List Nat) (s : St)
    (hab : NoIndAbs m) (hsort : SortAgree m p.rule L) (hl : p.initLog = true)
    (hflag : p.autoFlag = false)
    (hsucc : (simulate m { p with absence := L } s).status = .success) :
    (removeAbs m (simulate m { p with absence := L } s)).logs = (simulate m { p with absence := [] } s).logs ∧
    (removeAbs m (simulate m { p with absence := L } s)).time = (simulate m { p with absence := [] } s).time ∧
    (removeAbs m (simulate m { p with absence := L } s)).status =
      (simulate m { p with absence := [] } s).status ∧
    (simulate m { p with absence := [] } s).status = .success :=
  removal_of_sim m p L s (Sim m L) (fun _ _ h => h)
    (sim_working m { p with absence := L } { p with absence := [] } hab hsort rfl rfl rfl)
    (sim_absence m { p with absence := L } hflag) (enter_sim m p L s hl) hsucc

/-- `removal_sortAgree` for two parameter records written out (`pB` is `pA` without its absence
list): the form in which it applies to a concrete pair of runs.  (Instantiating
`{ p with absence := L }` leaves unreduced projections in the parameters, and the elaborator, asked
to identify two such spellings of a run under a projection, starts evaluating the run.) -/
theorem removal_run {m : Model} {pA pB : Params} {s : St}
    (hsucc : (simulate m pA s).status = .success) (hB : pB = { pA with absence := [] })
    (hab : NoIndAbs m) (hsort : SortAgree m pA.rule pA.absence) (hl : pA.initLog = true)
    (hflag : pA.autoFlag = false) :
    (removeAbs m (simulate m pA s)).logs = (simulate m pB s).logs ∧
    (removeAbs m (simulate m pA s)).time = (simulate m pB s).time ∧
    (removeAbs m (simulate m pA s)).status = (simulate m pB s).status ∧
    (simulate m pB s).status = .success := by
  subst hB
  exact removal_sortAgree m pA pA.absence s hab hsort hl hflag hsucc

/-- **C10, clause 3** (see `PDesy/Props/C10Removal.lean`) -/
theorem removal (m : Model) (p : Params) (L : List Nat) (s : St)
    (hm : ModelOK m p.rule) (hw : WorkOK m) (hs : p.initState = true)
    (hl : p.initLog = true) (hflag : p.autoFlag = false)
    (hsucc : (simulate m { p with absence := L } s).status = .success) :
    (removeAbs m (simulate m { p with absence := L } s)).logs = (simulate m { p with absence := [] } s).logs ∧
    (removeAbs m (simulate m { p with absence := L } s)).time = (simulate m { p with absence := [] } s).time ∧
    (removeAbs m (simulate m { p with absence := L } s)).status =
      (simulate m { p with absence := [] } s).status ∧
    (simulate m { p with absence := [] } s).status = .success :=
  removal_sortAgree m p L s hm.noInd (sortAgree_of_modelOK m p.rule hm L) hl hflag hsucc

/-! `C10_working_step`, `C10_absence_step_current` and `C10_removal_of_absence_step`
(Props/C10Removal) are stated for `Rel`: `Sim` with the allocation invariants of both live states
carried along.  `Good`, `Rel` and `AbsStepOK` serve that file alone. -/

/-- invariants of the live state at the top of an iteration (before `__update`) -/
structure Good (m : Model) (l : Live) : Prop where
  inv : AllocInv m l
  hold : HoldWorking l
  remOK : RemOK m l

theorem Good.update {m : Model} {l : Live} (h : Good m l) (time : Nat) : Good m (update m time l) :=
  ⟨(AllocInv_update time h.inv h.hold).1, (AllocInv_update time h.inv h.hold).2, RemOK_update m time l h.remOK⟩

theorem Good.stepBody {m : Model} (p : Params) {s : St} (h : Good m s.live) :
    Good m (stepBody m p s).live :=
  ⟨(AllocInv_stepBody p h.inv h.hold).1, (AllocInv_stepBody p h.inv h.hold).2.1, RemOK_stepBody m p s h.remOK⟩

/-- `Sim` together with the allocation invariants of both live states; no proof reads `goodA` or
`goodB`, they are only carried along -/
structure Rel (m : Model) (L : List Nat) (a0 b0 : St) : Prop where
  live : LRel m (update m a0.time a0.live) (update m b0.time b0.live)
  time : a0.time = b0.time + (stepsBelow a0.time L).length
  logs : removeLogs m (stepsBelow a0.time L) a0.logs = b0.logs
  alignA : Aligned m a0
  goodA : Good m a0.live
  goodB : Good m b0.live

theorem Rel.sim {m : Model} {L : List Nat} {a0 b0 : St} (h : Rel m L a0 b0) : Sim m L a0 b0 :=
  ⟨h.live, h.time, h.logs, h.alignA⟩

theorem Sim.rel {m : Model} {L : List Nat} {a0 b0 : St} (h : Sim m L a0 b0) (ga : Good m a0.live)
    (gb : Good m b0.live) : Rel m L a0 b0 :=
  ⟨h.live, h.time, h.logs, h.alignA, ga, gb⟩

theorem enter_rel (m : Model) (hw : WorkOK m) (p : Params) (L : List Nat) (s : St)
    (hs : p.initState = true) (hl : p.initLog = true) :
    Rel m L (enter m { p with absence := L } s) (enter m { p with absence := [] } s) := by
  have hgood : ∀ q : Params, q.initState = true → Good m (enter m q s).live := by
    intro q hq
    obtain ⟨i1, i2⟩ := AllocInv_enter m hq s
    exact ⟨i1, i2, RemOK_enter m hw q s hq⟩
  exact (enter_sim m p L s hl).rel (hgood _ hs) (hgood _ hs)

/-- what `C10_removal_of_absence_step` asks of an absence step of run A: it leads to the relation
with the *same* state of run B (`J` is any further invariant of run A that the step lemma wants) -/
def AbsStepOK (m : Model) (pA : Params) (J : St → Prop) : Prop :=
  ∀ a0 b0, Rel m pA.absence a0 b0 → J a0 → pA.absence.contains a0.time = true →
    Rel m pA.absence (stepBody m pA (updated m a0)) b0

/-! Nothing in the library rests on what follows; the names are end results of the development and stay. -/

theorem absenceSet_setP (m : Model) (q : Live) (time : Nat) (wk : Bool) (l : Live) :
    absenceSet m time wk (setP q l) = setP q (absenceSet m time wk l) := by
  rw [absenceSet_eq, absenceSet_eq]; rfl

/-- `stepBody_logs_row` without naming the state that `cost` is charged on -/
theorem stepBody_logs_addRow (m : Model) (p : Params) (s : St) :
    ∃ l4, (stepBody m p s).logs = addRow m (!(p.absence.contains s.time)) l4 (stepBody m p s).live s.logs :=
  ⟨_, rfl⟩

/-- `List.foldl_hom` with an invariant -/
theorem foldl_comm_inv {α β : Type} (g : β → α → β) (h : β → β) (P : β → Prop)
    (hP : ∀ b x, P b → P (g b x))
    (hc : ∀ b x, P b → g (h b) x = h (g b x)) (xs : List α) (b : β) (hb : P b) :
    xs.foldl g (h b) = h (xs.foldl g b) := by
  induction xs generalizing b with
  | nil => rfl
  | cons x xs ih => rw [List.foldl_cons, List.foldl_cons, hc b x hb, ih _ (hP b x hb)]

theorem allocate_auto_holds (m : Model) (lg : Logs) (rule : TaskRule) (l : Live) (t : Nat)
    (h : (m.task t).isAuto = true) :
    (allocate m lg rule l).allocW t = l.allocW t ∧ (allocate m lg rule l).allocF t = l.allocF t := by
  obtain ⟨b, hr, e⟩ := allocate_reach m lg rule l
  rw [e]
  -- at the turn of another task nothing of `t` is written; at its own turn only `worker`/`pair`
  -- would, and they are for non-automatic tasks
  refine hr.inv (P := fun b => b.l.allocW t = l.allocW t ∧ b.l.allocF t = l.allocF t)
    (fun t' b c _ hact hb => ?_) ⟨rfl, rfl⟩
  by_cases e : t = t'
  · subst e
    cases hact with
    | perm fr hp => exact hb
    | move c p => rw [moveComp_frame]; exact hb
    | worker w hna => rw [h] at hna; cases hna
    | pair w f c p hna => rw [h] at hna; cases hna
  · exact ⟨(hact.pass.otherW t e).trans hb.1, (hact.pass.otherF t e).trans hb.2⟩

/-- component-free automatic task: when no component lists an automatic task, the only kind of
task that `check_state(WORKING)` starts at a project absence step (it runs there only with the flag
on) -/
def freeAuto (m : Model) (t : Nat) : Bool := (m.task t).isAuto && (m.task t).comp.isNone

/-- run A is *ahead* of run B: same task states, except that some component-free automatic
tasks that are READY in B are already WORKING in A (what `check_state(WORKING)` does at project
absence steps when the flag is on) -/
def Ahead (m : Model) (tsA tsB : Nat → TS) : Prop :=
  ∀ t, tsA t = tsB t ∨ (t < m.nT ∧ freeAuto m t = true ∧ tsA t = .working ∧ tsB t = .ready)

theorem Ahead.finished {m : Model} {a b : Nat → TS} (h : Ahead m a b) (t : Nat) :
    (a t == .finished) = (b t == .finished) := by
  rcases h t with e | ⟨_, _, e1, e2⟩
  · rw [e]
  · rw [e1, e2]; rfl

theorem Ahead.active {m : Model} {a b : Nat → TS} (h : Ahead m a b) (t : Nat) :
    (a t == .ready || a t == .working) = (b t == .ready || b t == .working) := by
  rcases h t with e | ⟨_, _, e1, e2⟩
  · rw [e]
  · rw [e1, e2]; rfl

end Removal
end PDesy
