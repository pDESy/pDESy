/-
  PDesy.Lemmas.AllocLoop — the allocation pass (`allocate`, a fold of `allocTask`) analysed once.

  `can_add_resources` is split into what it reads of the live state (`Room`, antitone in the
  allocation lists) and what it reads of the model (`fits`).  Whatever the pass does is one of four
  actions, each taken under a guard (`Act`): an invariant of the four actions is an invariant of the
  pass (`Reach.inv`), and what is monotone along them (`Pass`) holds between any two accumulators
  of the pass; in particular a refusal of `can_add_resources` stands until the pass ends.
  `Settled` and `Turn` say what the turn of one task has tried, and carry its refusals to the end.
  `AfterPass` is `Pass` from the start of the pass to its end read on the live states alone, for
  those who do not follow the pass.
-/
import PDesy.Lemmas.ListFacts
import PDesy.Lemmas.Sort
import PDesy.Model.Phases

namespace PDesy

/-- the part of `can_add_resources` that reads the model only: fixed resource lists and skills -/
def fits (m : Model) (t : Nat) (w f : Option Nat) : Bool :=
  !(match w, (m.task t).fixW with | some w, some ids => !(ids.contains w) | _, _ => false) &&
  !(match f, (m.task t).fixF with | some f, some ids => !(ids.contains f) | _, _ => false) &&
  match f, w with
  | some f, some w =>
    hasSkill (m.fac f).skills (m.task t).name &&
      hasSkill (m.worker w).facSkills (m.fac f).name && hasSkill (m.worker w).skills (m.task t).name
  | some _, Option.none => false
  | Option.none, some w => hasSkill (m.worker w).skills (m.task t).name
  | Option.none, Option.none => false

/-- the part of `can_add_resources` that reads the live state: of it, only `tstate t`, `allocW t`,
`allocF t` and the assignment list of the facility asked for -/
structure Room (m : Model) (l : Live) (t : Nat) (w f : Option Nat) : Prop where
  state : l.tstate t = .ready ∨ l.tstate t = .working
  soloW : ∀ w' ∈ l.allocW t, (m.worker w').solo = false
  soloF : ∀ f' ∈ l.allocF t, (m.fac f').solo = false
  newW : ∀ w0, w = some w0 → (m.worker w0).solo = true → l.allocW t = []
  newF : ∀ f0, f = some f0 → (m.fac f0).solo = true → l.allocF t = []
  fasg : ∀ f0, f = some f0 → l.fasg f0 = []

theorem TS.open_iff (s : TS) : (s == .none || s == .finished) = false ↔ s = .ready ∨ s = .working := by
  cases s <;> decide

theorem canAdd_iff {m : Model} {l : Live} {t : Nat} {w f : Option Nat} :
    canAdd m l t w f = true ↔ Room m l t w f ∧ fits m t w f = true := by
  -- `delta`, not `unfold`: Lean fails (slowly) to generate the equation lemma of `canAdd`
  delta canAdd fits
  simp only [Bool.if_false_left, Bool.and_eq_true, Bool.not_eq_true', Bool.decide_eq_true,
    TS.open_iff, List.any_eq_false, Bool.not_eq_true]
  constructor
  · rintro ⟨h1, h2, h3, h4, h5, h6, h7, h8, h9⟩
    refine ⟨⟨h1, h2, h3, ?_, ?_, ?_⟩, ⟨h6, h7⟩, h9⟩
    · rintro w0 rfl hs; simpa [hs] using h4
    · rintro f0 rfl hs; simpa [hs] using h5
    · rintro f0 rfl; simpa using h8
  · rintro ⟨⟨h1, h2, h3, h4, h5, h6⟩, ⟨h7, h8⟩, h9⟩
    refine ⟨h1, h2, h3, ?_, ?_, h7, h8, ?_, h9⟩
    · cases w with
      | none => rfl
      | some w0 => cases hs : (m.worker w0).solo <;> simp [hs, h4 w0 rfl]
    · cases f with
      | none => rfl
      | some f0 => cases hs : (m.fac f0).solo <;> simp [hs, h5 f0 rfl]
    · cases f with
      | none => rfl
      | some f0 => simp [h6 f0 rfl]

theorem canAdd_false_iff {m : Model} {l : Live} {t : Nat} {w f : Option Nat} :
    canAdd m l t w f = false ↔ ¬ (Room m l t w f ∧ fits m t w f = true) := by
  rw [← canAdd_iff, Bool.not_eq_true]

theorem fits_W_iff {m : Model} {t w : Nat} :
    fits m t (some w) Option.none = true ↔
      (∀ ids, (m.task t).fixW = some ids → w ∈ ids) ∧
      hasSkill (m.worker w).skills (m.task t).name = true := by
  unfold fits
  cases (m.task t).fixW <;> simp

theorem fits_WF_iff {m : Model} {t w f : Nat} :
    fits m t (some w) (some f) = true ↔
      (∀ ids, (m.task t).fixW = some ids → w ∈ ids) ∧
      (∀ ids, (m.task t).fixF = some ids → f ∈ ids) ∧
      hasSkill (m.fac f).skills (m.task t).name = true ∧
      hasSkill (m.worker w).facSkills (m.fac f).name = true ∧
      hasSkill (m.worker w).skills (m.task t).name = true := by
  unfold fits
  cases (m.task t).fixW <;> cases (m.task t).fixF <;> simp [and_assoc]

theorem Room.anti {m : Model} {l l' : Live} {t : Nat} {w f : Option Nat} (h : Room m l' t w f)
    (hts : (l'.tstate t = .ready ∨ l'.tstate t = .working) →
      (l.tstate t = .ready ∨ l.tstate t = .working))
    (hW : ∀ x ∈ l.allocW t, x ∈ l'.allocW t)
    (hF : ∀ x ∈ l.allocF t, x ∈ l'.allocF t)
    (hA : ∀ f0, f = some f0 → l'.fasg f0 = [] → l.fasg f0 = []) : Room m l t w f where
  state := hts h.state
  soloW := fun x hx => h.soloW x (hW x hx)
  soloF := fun x hx => h.soloF x (hF x hx)
  newW := fun w0 e hs => List.eq_nil_iff_forall_not_mem.mpr fun x hx =>
    List.not_mem_nil (h.newW w0 e hs ▸ hW x hx)
  newF := fun f0 e hs => List.eq_nil_iff_forall_not_mem.mpr fun x hx =>
    List.not_mem_nil (h.newF f0 e hs ▸ hF x hx)
  fasg := fun f0 e => hA f0 e (h.fasg f0 e)

theorem canAdd_congr {m : Model} {l l' : Live} {t : Nat} {w f : Option Nat}
    (hts : (l'.tstate t = .ready ∨ l'.tstate t = .working) ↔
      (l.tstate t = .ready ∨ l.tstate t = .working))
    (hW : l'.allocW t = l.allocW t) (hF : l'.allocF t = l.allocF t)
    (hA : ∀ f0, f = some f0 → l'.fasg f0 = l.fasg f0) :
    canAdd m l' t w f = canAdd m l t w f := by
  rw [Bool.eq_iff_iff, canAdd_iff, canAdd_iff]
  refine and_congr_left fun _ => ⟨fun h => ?_, fun h => ?_⟩
  · exact h.anti hts.mp (hW ▸ fun _ hx => hx) (hF ▸ fun _ hx => hx) (fun f0 e hn => hA f0 e ▸ hn)
  · exact h.anti hts.mpr (hW ▸ fun _ hx => hx) (hF ▸ fun _ hx => hx)
      (fun f0 e hn => (hA f0 e).symm ▸ hn)

/-! ### `allocate` is a fold of `allocTask`, whose loops over workers and over facilities are folds of
`wStep` and `pStep` -/

/-- the free workers `allocate` starts from -/
def Elig.freeOf (m : Model) (l : Live) : List Nat :=
  (List.range m.nW).filter fun w => l.wstate w == .free

/-- the candidate tasks of the pass -/
def NoWait.cands (m : Model) (l : Live) : List Nat :=
  (List.range m.nT).filter fun t => l.tstate t == .ready || l.tstate t == .working

theorem allocate_fold (m : Model) (lg : Logs) (rule : TaskRule) (l : Live) :
    allocate m lg rule l =
      ((sortTasks m l lg rule (NoWait.cands m l)).foldl (allocTask m)
        { l := l, free := Elig.freeOf m l }).l := by
  unfold allocate
  simp only [tabN_eq]
  rfl

/-- step 3-1 of a turn, with the once-per-pass guard -/
def allocHead (m : Model) (acc : Alloc) (t : Nat) : Alloc :=
  if (match (m.task t).comp with
      | some c => acc.moved.contains c
      | Option.none => false) then acc
  else { acc with l := placeStep m t acc.l,
                  moved := match placeMoves m t acc.l with
                    | some c => acc.moved ++ [c]
                    | Option.none => acc.moved }

theorem allocTask_eq (m : Model) (acc : Alloc) (t : Nat) :
    allocTask m acc t =
      if (m.task t).isAuto then allocHead m acc t
      else if (m.task t).needFac then allocPairs m t (allocHead m acc t)
      else allocWorkers m t (allocHead m acc t) := rfl

def wStep (m : Model) (t : Nat) (acc : Alloc) (w : Nat) : Alloc :=
  if canAdd m acc.l t (some w) Option.none then
    { acc with l := giveW acc.l t w, free := acc.free.filter (· != w) }
  else acc

theorem allocWorkers_fold (m : Model) (t : Nat) (a : Alloc) :
    allocWorkers m t a =
      ((sortWorkers m (m.task t).wRule (m.task t).name Option.none a.free).filter fun w =>
        hasSkill (m.worker w).skills (m.task t).name && teamTargets m w t).foldl (wStep m t)
        { a with free := sortWorkers m (m.task t).wRule (m.task t).name Option.none a.free } := rfl

/-- the facilities `allocPairs` goes through when the component of `t` stands at `p` -/
def pairFacs (m : Model) (t p : Nat) (l : Live) : List Nat :=
  (sortFacs m (m.task t).fRule (m.task t).name
    ((m.wp p).facs.filter fun f => l.fstate f == .free)).filter fun f =>
      hasSkill (m.fac f).skills (m.task t).name && wpTargets m f t

/-- the eligible free workers that `t` would take together with facility `f` -/
def pairWorkers (m : Model) (t : Nat) (acc : Alloc) (f : Nat) : List Nat :=
  acc.free.filter fun w =>
    hasSkill (m.worker w).skills (m.task t).name && teamTargets m w t &&
      canAdd m acc.l t (some w) (some f)

def pStep (m : Model) (t p : Nat) (acc : Alloc) (f : Nat) : Alloc :=
  match sortWorkers m (m.task t).wRule (m.task t).name (some p) (pairWorkers m t acc f) with
  | [] => acc
  | w :: _ => { acc with l := giveF (giveW acc.l t w) t f, free := acc.free.filter (· != w) }

theorem allocPairs_eq (m : Model) (t : Nat) (a : Alloc) :
    allocPairs m t a =
      match (m.task t).comp with
      | Option.none => a
      | some c =>
        match a.l.placed c with
        | Option.none => a
        | some p => (pairFacs m t p a.l).foldl (pStep m t p) a := rfl

theorem moveComp_frame (l : Live) (c p : Nat) :
    moveComp l c p =
      { l with placed := upd l.placed c (some p), wpComps := (moveComp l c p).wpComps } := by
  unfold moveComp
  dsimp only
  split <;> split <;> rfl

theorem moveComp_placed (l : Live) (c p : Nat) :
    (moveComp l c p).placed = upd l.placed c (some p) := by rw [moveComp_frame]

theorem Elig.mem_freeOf {m : Model} {l : Live} {w : Nat} :
    w ∈ Elig.freeOf m l ↔ w < m.nW ∧ l.wstate w = .free := by
  simp [Elig.freeOf]

theorem NoWait.mem_cands {m : Model} {l : Live} {t : Nat} :
    t ∈ NoWait.cands m l ↔ t < m.nT ∧ (l.tstate t = .ready ∨ l.tstate t = .working) := by
  simp [NoWait.cands]

theorem mem_pairFacs {m : Model} {t p f : Nat} {l : Live} :
    f ∈ pairFacs m t p l ↔ f ∈ (m.wp p).facs ∧ l.fstate f = .free ∧
      hasSkill (m.fac f).skills (m.task t).name = true ∧ wpTargets m f t = true := by
  simp [pairFacs, and_assoc]

theorem Elig.freeOf_nodup (m : Model) (l : Live) : (Elig.freeOf m l).Nodup :=
  List.nodup_range.sublist List.filter_sublist

theorem NoWait.cands_nodup (m : Model) (l : Live) : (NoWait.cands m l).Nodup :=
  List.nodup_range.sublist List.filter_sublist

theorem NoWait.sorted_nodup (m : Model) (l : Live) (lg : Logs) (rule : TaskRule) :
    (sortTasks m l lg rule (NoWait.cands m l)).Nodup :=
  (Sort.sortTasks_perm m l lg rule _).nodup_iff.mpr (NoWait.cands_nodup m l)

/-! ### each step does nothing, or one thing under a guard -/

theorem placeStep_cases (m : Model) (t : Nat) (l : Live) :
    (placeMoves m t l = Option.none ∧ placeStep m t l = l ∧
      ∀ c, (m.task t).comp = some c → isReady m l c = true →
        ∀ p ∈ (m.task t).wps, placeOk m l t c p = false) ∨
    (∃ c p, (m.task t).comp = some c ∧ isReady m l c = true ∧ p ∈ (m.task t).wps ∧
      placeOk m l t c p = true ∧ placeMoves m t l = some c ∧ placeStep m t l = moveComp l c p) := by
  unfold placeMoves placeStep
  cases hc : (m.task t).comp with
  | none => exact Or.inl ⟨rfl, rfl, fun _ h => nomatch h⟩
  | some c =>
    dsimp only
    by_cases hr : isReady m l c = true
    · rw [if_pos hr, if_pos hr]
      cases hf : (sortWps m l (m.task t).wpRule (m.task t).name (m.task t).wps).find?
          (placeOk m l t c) with
      | none =>
        refine Or.inl ⟨rfl, rfl, fun c' e _ p hp => ?_⟩
        cases e
        simpa using List.find?_eq_none.mp hf p (Sort.mem_sortWps.mpr hp)
      | some p =>
        exact Or.inr ⟨c, p, rfl, hr, Sort.mem_sortWps.mp (List.mem_of_find?_eq_some hf),
          List.find?_some hf, rfl, rfl⟩
    · rw [if_neg hr, if_neg hr]
      exact Or.inl ⟨rfl, rfl, fun c' e hr' => by cases e; exact absurd hr' hr⟩

theorem allocHead_cases (m : Model) (a : Alloc) (t : Nat) :
    (allocHead m a t = a ∧ ∀ c, (m.task t).comp = some c → c ∉ a.moved → isReady m a.l c = true →
      ∀ p ∈ (m.task t).wps, placeOk m a.l t c p = false) ∨
    ∃ c p, (m.task t).comp = some c ∧ c ∉ a.moved ∧ isReady m a.l c = true ∧
      p ∈ (m.task t).wps ∧ placeOk m a.l t c p = true ∧
      allocHead m a t = { a with l := moveComp a.l c p, moved := a.moved ++ [c] } := by
  unfold allocHead
  by_cases hs : (match (m.task t).comp with
      | some c => a.moved.contains c
      | Option.none => false) = true
  · rw [if_pos hs]
    exact Or.inl ⟨rfl, fun c hc hnm => by simp [hc, hnm] at hs⟩
  · rw [if_neg hs]
    rcases placeStep_cases m t a.l with ⟨e1, e2, h⟩ | ⟨c, p, hc, hr, hp, hok, e1, e2⟩
    · rw [e1, e2]; exact Or.inl ⟨rfl, fun c hc _ => h c hc⟩
    · rw [e1, e2]
      exact Or.inr ⟨c, p, hc, by simpa [hc] using hs, hr, hp, hok, rfl⟩

theorem pStep_cases (m : Model) (t p : Nat) (acc : Alloc) (f : Nat) :
    (pStep m t p acc f = acc ∧ pairWorkers m t acc f = []) ∨ ∃ w, w ∈ acc.free ∧
      hasSkill (m.worker w).skills (m.task t).name = true ∧ teamTargets m w t = true ∧
      canAdd m acc.l t (some w) (some f) = true ∧
      pStep m t p acc f =
        { acc with l := giveF (giveW acc.l t w) t f, free := acc.free.filter (· != w) } := by
  unfold pStep
  split
  · rename_i heq
    exact Or.inl ⟨rfl, List.eq_nil_of_length_eq_zero (by
      rw [← (Sort.sortWorkers_perm ..).length_eq, heq]; rfl)⟩
  · rename_i w _ heq
    have hw : w ∈ pairWorkers m t acc f := Sort.mem_sortWorkers.mp (heq ▸ List.mem_cons_self)
    obtain ⟨hw1, hw2⟩ := List.mem_filter.mp hw
    simp only [Bool.and_eq_true] at hw2
    exact Or.inr ⟨w, hw1, hw2.1.1, hw2.1.2, hw2.2, rfl⟩

/-! ### whatever the pass does is one of four guarded actions -/

/-- What the turn of task `t` can do to the accumulator, one action at a time, each with the
guard under which the loop takes it. -/
inductive Act (m : Model) (t : Nat) : Alloc → Alloc → Prop
  /-- the free list is reordered (by `sort_worker_list`) -/
  | perm (a : Alloc) (fr : List Nat) (h : fr.Perm a.free) : Act m t a { a with free := fr }
  /-- step 3-1-1: the component of `t`, ready and not yet moved in this pass, goes to `p` -/
  | move (a : Alloc) (c p : Nat) (hc : (m.task t).comp = some c) (hnm : c ∉ a.moved)
      (hr : isReady m a.l c = true) (hp : p ∈ (m.task t).wps) (hok : placeOk m a.l t c p = true) :
      Act m t a { a with l := moveComp a.l c p, moved := a.moved ++ [c] }
  /-- step 3-2 without facility: a worker of the free list is accepted -/
  | worker (a : Alloc) (w : Nat) (hna : (m.task t).isAuto = false)
      (hnf : (m.task t).needFac = false) (hw : w ∈ a.free)
      (hs : hasSkill (m.worker w).skills (m.task t).name = true) (ht : teamTargets m w t = true)
      (hcan : canAdd m a.l t (some w) Option.none = true) :
      Act m t a { a with l := giveW a.l t w, free := a.free.filter (· != w) }
  /-- step 3-2 with facility: a FREE facility of the workplace where the component stands and a
  worker of the free list are accepted together -/
  | pair (a : Alloc) (w f c p : Nat) (hna : (m.task t).isAuto = false)
      (hnf : (m.task t).needFac = true) (hc : (m.task t).comp = some c)
      (hp : a.l.placed c = some p) (hf : f ∈ (m.wp p).facs) (hff : a.l.fstate f = .free)
      (hft : wpTargets m f t = true)
      (hw : w ∈ a.free) (hs : hasSkill (m.worker w).skills (m.task t).name = true)
      (ht : teamTargets m w t = true) (hcan : canAdd m a.l t (some w) (some f) = true) :
      Act m t a { a with l := giveF (giveW a.l t w) t f, free := a.free.filter (· != w) }

/-- a sequence of actions, each at a turn in `T` -/
inductive Reach (m : Model) (T : Nat → Prop) : Alloc → Alloc → Prop
  | refl (a : Alloc) : Reach m T a a
  | tail {a b c : Alloc} {t : Nat} : Reach m T a b → T t → Act m t b c → Reach m T a c

namespace Reach
variable {m : Model} {T T' : Nat → Prop} {a b c : Alloc}

theorem single {t : Nat} (ht : T t) (h : Act m t a b) : Reach m T a b := (refl a).tail ht h

theorem trans (h1 : Reach m T a b) (h2 : Reach m T b c) : Reach m T a c := by
  induction h2 with
  | refl => exact h1
  | tail _ ht hact ih => exact ih.tail ht hact

theorem mono (hT : ∀ t, T t → T' t) (h : Reach m T a b) : Reach m T' a b := by
  induction h with
  | refl => exact refl _
  | tail _ ht hact ih => exact ih.tail (hT _ ht) hact

theorem inv {P : Alloc → Prop} (hP : ∀ t b c, T t → Act m t b c → P b → P c)
    (h : Reach m T a b) (ha : P a) : P b := by
  induction h with
  | refl => exact ha
  | tail _ ht hact ih => exact hP _ _ _ ht hact ih

/-- A fold each of whose steps is a sequence of actions is one, and what the step at `x` achieves
for `x` (`Q x`) holds at the end if later actions keep it.  `I xs b` is what the steps ask of the
accumulator `b` and of the elements `xs` still to come. -/
theorem foldl {α : Type} (f : Alloc → α → Alloc) (I : List α → Alloc → Prop) (Q : α → Alloc → Prop)
    (hstep : ∀ x xs b, I (x :: xs) b → Reach m T b (f b x) ∧ I xs (f b x) ∧ Q x (f b x))
    (hQ : ∀ x b c, Reach m T b c → Q x b → Q x c) :
    ∀ (xs : List α) (a : Alloc), I xs a →
      Reach m T a (xs.foldl f a) ∧ ∀ x ∈ xs, Q x (xs.foldl f a) := by
  intro xs
  induction xs with
  | nil => exact fun a _ => ⟨refl a, fun _ hx => nomatch hx⟩
  | cons x xs ih =>
    intro a ha
    obtain ⟨h1, h2, h3⟩ := hstep x xs a ha
    obtain ⟨i1, i2⟩ := ih _ h2
    exact ⟨h1.trans i1, fun y hy =>
      (List.mem_cons.mp hy).elim (fun e => e ▸ hQ x _ _ i1 h3) (i2 y)⟩

end Reach

/-- What holds between two accumulators of the pass when only turns in `T` lie between them.
Every clause is monotone, so all are proved together: for one action (`Act.pass`), then by
transitivity (`Reach.pass`). -/
structure Pass (m : Model) (T : Nat → Prop) (a b : Alloc) : Prop where
  frame : b.l = { a.l with allocW := b.l.allocW, allocF := b.l.allocF, wasg := b.l.wasg,
                           fasg := b.l.fasg, placed := b.l.placed, wpComps := b.l.wpComps }
  nodup : a.free.Nodup → b.free.Nodup
  free_sub : ∀ w ∈ b.free, w ∈ a.free
  keep : ∀ w ∈ a.free, b.l.wasg w = [] → w ∈ b.free
  prefixW : ∀ t, a.l.allocW t <+: b.l.allocW t
  prefixF : ∀ t, a.l.allocF t <+: b.l.allocF t
  otherW : ∀ t, ¬ T t → b.l.allocW t = a.l.allocW t
  otherF : ∀ t, ¬ T t → b.l.allocF t = a.l.allocF t
  wasg_nil : ∀ w, b.l.wasg w = [] → a.l.wasg w = []
  fasg_nil : ∀ f, b.l.fasg f = [] → a.l.fasg f = []
  srcW : ∀ t w, w ∈ b.l.allocW t → w ∈ a.l.allocW t ∨ (T t ∧ w ∈ a.free)
  srcF : ∀ t f, f ∈ b.l.allocF t → f ∈ a.l.allocF t ∨ (T t ∧ a.l.fasg f = [] ∧
    a.l.fstate f = .free ∧ b.l.allocW t ≠ [] ∧
    ∃ c p, (m.task t).comp = some c ∧ f ∈ (m.wp p).facs)
  placed_other : ∀ c, (∀ t, T t → (m.task t).comp ≠ some c) → b.l.placed c = a.l.placed c
  /-- a component is moved at most once in a pass -/
  placed_moved : ∀ c ∈ a.moved, b.l.placed c = a.l.placed c
  moved : a.moved <+: b.moved
  moved_sub : ∀ c ∈ b.moved, c ∈ a.moved ∨ ∃ t, T t ∧ (m.task t).comp = some c
  still : b.moved = a.moved → b.l.placed = a.l.placed ∧ b.l.wpComps = a.l.wpComps

namespace Pass
variable {m : Model} {T : Nat → Prop} {a b c : Alloc}

theorem tstate (h : Pass m T a b) : b.l.tstate = a.l.tstate := by rw [h.frame]
theorem wstate (h : Pass m T a b) : b.l.wstate = a.l.wstate := by rw [h.frame]
theorem fstate (h : Pass m T a b) : b.l.fstate = a.l.fstate := by rw [h.frame]

theorem refl (a : Alloc) : Pass m T a a where
  frame := rfl
  nodup := id
  free_sub := fun _ h => h
  keep := fun _ h _ => h
  prefixW := fun _ => List.prefix_refl _
  prefixF := fun _ => List.prefix_refl _
  otherW := fun _ _ => rfl
  otherF := fun _ _ => rfl
  wasg_nil := fun _ h => h
  fasg_nil := fun _ h => h
  srcW := fun _ _ h => Or.inl h
  srcF := fun _ _ h => Or.inl h
  placed_other := fun _ _ => rfl
  placed_moved := fun _ _ => rfl
  moved := List.prefix_refl _
  moved_sub := fun _ h => Or.inl h
  still := fun _ => ⟨rfl, rfl⟩

theorem trans (h1 : Pass m T a b) (h2 : Pass m T b c) : Pass m T a c where
  frame := by rw [h2.frame, h1.frame]
  nodup := fun h => h2.nodup (h1.nodup h)
  free_sub := fun w h => h1.free_sub w (h2.free_sub w h)
  keep := fun w h hn => h2.keep w (h1.keep w h (h2.wasg_nil w hn)) hn
  prefixW := fun t => (h1.prefixW t).trans (h2.prefixW t)
  prefixF := fun t => (h1.prefixF t).trans (h2.prefixF t)
  otherW := fun t ht => (h2.otherW t ht).trans (h1.otherW t ht)
  otherF := fun t ht => (h2.otherF t ht).trans (h1.otherF t ht)
  wasg_nil := fun w h => h1.wasg_nil w (h2.wasg_nil w h)
  fasg_nil := fun f h => h1.fasg_nil f (h2.fasg_nil f h)
  srcW := fun t w h => (h2.srcW t w h).elim (h1.srcW t w) fun h' =>
    Or.inr ⟨h'.1, h1.free_sub w h'.2⟩
  srcF := fun t f h => (h2.srcF t f h).elim
    (fun hb => (h1.srcF t f hb).imp id fun ⟨ht, h3, h4, h5, h6⟩ =>
      ⟨ht, h3, h4, fun e => h5 (List.prefix_nil.mp (e ▸ h2.prefixW t)), h6⟩)
    fun ⟨ht, h3, h4, h5⟩ => Or.inr ⟨ht, h1.fasg_nil f h3, h1.fstate ▸ h4, h5⟩
  placed_other := fun c hc => (h2.placed_other c hc).trans (h1.placed_other c hc)
  placed_moved := fun c hc => (h2.placed_moved c (h1.moved.subset hc)).trans (h1.placed_moved c hc)
  moved := h1.moved.trans h2.moved
  moved_sub := fun c h => (h2.moved_sub c h).elim (h1.moved_sub c) Or.inr
  still := fun e =>
    have e1 : b.moved = a.moved := List.IsPrefix.eq_of_length_le (e ▸ h2.moved) h1.moved.length_le
    have s1 := h1.still e1
    have s2 := h2.still (e.trans e1.symm)
    ⟨s2.1.trans s1.1, s2.2.trans s1.2⟩

theorem mono {T' : Nat → Prop} (hT : ∀ t, T t → T' t) (h : Pass m T a b) : Pass m T' a b :=
  { h with
    otherW := fun t ht => h.otherW t fun h' => ht (hT t h')
    otherF := fun t ht => h.otherF t fun h' => ht (hT t h')
    srcW := fun t w hm => (h.srcW t w hm).imp id fun h' => ⟨hT t h'.1, h'.2⟩
    srcF := fun t f hm => (h.srcF t f hm).imp id fun h' => ⟨hT t h'.1, h'.2⟩
    placed_other := fun c hc => h.placed_other c fun t ht => hc t (hT t ht)
    moved_sub := fun c hc => (h.moved_sub c hc).imp id fun ⟨t, ht, h'⟩ => ⟨t, hT t ht, h'⟩ }

theorem room (h : Pass m T a b) {t : Nat} {w f : Option Nat} (hr : Room m b.l t w f) :
    Room m a.l t w f :=
  hr.anti (congrFun h.tstate t ▸ id) (fun _ hx => (h.prefixW t).subset hx)
    (fun _ hx => (h.prefixF t).subset hx) (fun f0 _ hn => h.fasg_nil f0 hn)

theorem canAdd_false (h : Pass m T a b) {t : Nat} {w f : Option Nat}
    (hc : canAdd m a.l t w f = false) : canAdd m b.l t w f = false := by
  rw [canAdd_false_iff] at hc ⊢
  exact fun h' => hc ⟨h.room h'.1, h'.2⟩

end Pass

theorem Pass.of_giveW {m : Model} (a : Alloc) (t w : Nat) (hw : w ∈ a.free) :
    Pass m (· = t) a { a with l := giveW a.l t w, free := a.free.filter (· != w) } :=
  { Pass.refl a with
    frame := rfl
    nodup := fun h => h.sublist List.filter_sublist
    free_sub := fun _ h => (List.mem_filter.mp h).1
    keep := fun w' hw' hn => List.mem_filter.mpr ⟨hw', by
      simp only [bne_iff_ne, ne_eq]; rintro rfl; simp [giveW] at hn⟩
    prefixW := fun _ => prefix_upd_append
    otherW := fun _ ht => upd_other _ _ _ _ ht
    wasg_nil := fun _ => upd_append_nil
    srcW := fun _ _ hm => (mem_upd_append.mp hm).imp id fun ⟨e1, e2⟩ => ⟨e1, e2 ▸ hw⟩
    srcF := fun _ _ => Or.inl }

theorem Pass.of_giveF {m : Model} (a : Alloc) (t f : Nat) (hne : a.l.allocW t ≠ [])
    (hasg : a.l.fasg f = []) (hff : a.l.fstate f = .free)
    (hcp : ∃ c p, (m.task t).comp = some c ∧ f ∈ (m.wp p).facs) :
    Pass m (· = t) a { a with l := giveF a.l t f } :=
  { Pass.refl a with
    frame := rfl
    prefixF := fun _ => prefix_upd_append
    otherF := fun _ ht => upd_other _ _ _ _ ht
    fasg_nil := fun _ => upd_append_nil
    srcF := fun _ _ hm => (mem_upd_append.mp hm).imp id fun ⟨e1, e2⟩ => by
      subst e1 e2; exact ⟨rfl, hasg, hff, hne, hcp⟩ }

theorem Act.pass {m : Model} {t : Nat} {a a' : Alloc} (h : Act m t a a') :
    Pass m (· = t) a a' := by
  cases h with
  | perm fr hp =>
    exact { Pass.refl (m := m) (T := (· = t)) a with
      nodup := hp.nodup_iff.mpr
      free_sub := fun w hw => hp.mem_iff.mp hw
      keep := fun w hw _ => hp.mem_iff.mpr hw }
  | move c p hc hnm =>
    -- with the record for `moveComp`, the fields about the lists are those of `Pass.refl`
    rw [moveComp_frame]
    exact { Pass.refl (m := m) (T := (· = t)) a with
      frame := rfl
      placed_other := fun c' hc' => upd_other _ _ _ _ fun e' => hc' t rfl (e' ▸ hc)
      placed_moved := fun c' hc' => upd_other _ _ _ _ fun e' => hnm (e' ▸ hc')
      moved := List.prefix_append _ _
      moved_sub := fun c' hc' => (List.mem_append.mp hc').imp id fun h' =>
        ⟨t, rfl, by rw [List.mem_singleton.mp h']; exact hc⟩
      still := fun e' => by simp at e' }
  | worker w _ _ hw => exact Pass.of_giveW a t w hw
  | pair w f c p _ _ hc _ hf hff _ hw _ _ hcan =>
    -- a pair is a worker, then a facility for a task that holds a worker
    exact (Pass.of_giveW a t w hw).trans (Pass.of_giveF _ t f (by simp [giveW])
      ((canAdd_iff.mp hcan).1.fasg f rfl) hff ⟨c, p, hc, hf⟩)

theorem Reach.pass {m : Model} {T : Nat → Prop} {a b : Alloc} (h : Reach m T a b) :
    Pass m T a b := by
  induction h with
  | refl => exact Pass.refl _
  | tail _ ht hact ih => exact ih.trans (hact.pass.mono fun t' (e : t' = _) => e ▸ ht)

/-- Task `t` has refused (together with facility `f`, if one is named) every eligible worker that
is still in the free list.  Worker form: `f = none`; pair form: `f = some _`. -/
def Settled (m : Model) (a : Alloc) (t : Nat) (f : Option Nat) : Prop :=
  ∀ w ∈ a.free, hasSkill (m.worker w).skills (m.task t).name = true → teamTargets m w t = true →
    canAdd m a.l t (some w) f = false

theorem Settled.reach {m : Model} {T : Nat → Prop} {a b : Alloc} {t : Nat} {f : Option Nat}
    (h : Settled m a t f) (hr : Reach m T a b) : Settled m b t f :=
  fun w hw h1 h2 => hr.pass.canAdd_false (h w (hr.pass.free_sub w hw) h1 h2)

/-- Where a facility comes from that `allocPairs` adds to `t`: the fields of `Act.pair` read at the
start of the loop.  No guard on the task is asked, so this is not an instance of
`allocPairs_turn`. -/
theorem allocPairs_srcF {m : Model} {t : Nat} (a : Alloc) {f : Nat} (h : f ∈ (allocPairs m t a).l.allocF t) :
    f ∈ a.l.allocF t ∨
      ∃ c p, (m.task t).comp = some c ∧ a.l.placed c = some p ∧ f ∈ (m.wp p).facs ∧
        a.l.fstate f = .free ∧ a.l.fasg f = [] := by
  rw [allocPairs_eq] at h
  split at h
  · exact Or.inl h
  · rename_i c hc
    split at h
    · exact Or.inl h
    · rename_i p hp
      -- along the facility loop: an assignment list that is empty now was empty at the start
      refine ((foldl_inv_mem (pStep m t p) (fun acc : Alloc =>
        (∀ f', acc.l.fasg f' = [] → a.l.fasg f' = []) ∧
        (f ∈ acc.l.allocF t → f ∈ a.l.allocF t ∨
          (f ∈ (m.wp p).facs ∧ a.l.fstate f = .free ∧ a.l.fasg f = []))) _ ?_ a
        ⟨fun _ h => h, Or.inl⟩).2 h).imp id fun h' => ⟨c, p, hc, hp, h'⟩
      intro acc f' hf' ⟨hasg, hacc⟩
      rcases pStep_cases m t p acc f' with ⟨e, _⟩ | ⟨w, _, _, _, hcan, e⟩ <;> rw [e]
      · exact ⟨hasg, hacc⟩
      · obtain ⟨h1, h2, _, _⟩ := mem_pairFacs.mp hf'
        refine ⟨fun f'' h'' => hasg f'' (upd_append_nil h''), fun hmem => ?_⟩
        rcases mem_upd_append.mp hmem with h' | ⟨_, rfl⟩
        · exact hacc h'
        · exact Or.inr ⟨h1, h2, hasg f ((canAdd_iff.mp hcan).1.fasg f rfl)⟩

theorem allocTask_placing (m : Model) (a : Alloc) (t : Nat) :
    (allocTask m a t).l.placed = (allocHead m a t).l.placed ∧
    (allocTask m a t).l.wpComps = (allocHead m a t).l.wpComps ∧
    (allocTask m a t).moved = (allocHead m a t).moved := by
  rw [allocTask_eq]
  generalize allocHead m a t = a'
  let P : Alloc → Prop := fun b =>
    b.l.placed = a'.l.placed ∧ b.l.wpComps = a'.l.wpComps ∧ b.moved = a'.moved
  show P _
  split
  · exact ⟨rfl, rfl, rfl⟩
  · split
    · rw [allocPairs_eq]
      split
      · exact ⟨rfl, rfl, rfl⟩
      · split
        · exact ⟨rfl, rfl, rfl⟩
        · refine foldl_inv_mem _ P _ (fun b f _ hb => ?_) _ ⟨rfl, rfl, rfl⟩
          rcases pStep_cases m t _ b f with ⟨e, _⟩ | ⟨_, _, _, _, _, e⟩ <;> rw [e] <;> exact hb
    · rw [allocWorkers_fold]
      refine foldl_inv_mem _ P _ (fun b w _ hb => ?_) _ ⟨rfl, rfl, rfl⟩
      unfold wStep; split <;> exact hb

/-! ### the turn of one task: a sequence of actions that settles the task -/

section reach
variable {m : Model} {t : Nat}

theorem allocHead_reach (a : Alloc) : Reach m (· = t) a (allocHead m a t) := by
  rcases allocHead_cases m a t with ⟨e, _⟩ | ⟨c, p, hc, hnm, hr, hp, hok, e⟩ <;> rw [e]
  · exact Reach.refl a
  · exact Reach.single (T := (· = t)) rfl (Act.move a c p hc hnm hr hp hok)

theorem allocHead_free (a : Alloc) : (allocHead m a t).free = a.free := by
  rcases allocHead_cases m a t with ⟨e, _⟩ | ⟨_, _, _, _, _, _, _, e⟩ <;> rw [e]

theorem foldl_wStep (hna : (m.task t).isAuto = false) (hnf : (m.task t).needFac = false)
    (cs : List Nat) (acc : Alloc) (hnd : cs.Nodup)
    (hall : ∀ w ∈ cs, w ∈ acc.free ∧ hasSkill (m.worker w).skills (m.task t).name = true ∧
      teamTargets m w t = true) :
    Reach m (· = t) acc (cs.foldl (wStep m t) acc) ∧
    ∀ w ∈ cs, w ∈ (cs.foldl (wStep m t) acc).free →
      canAdd m (cs.foldl (wStep m t) acc).l t (some w) Option.none = false := by
  refine Reach.foldl (wStep m t)
    (fun cs b => cs.Nodup ∧ ∀ w ∈ cs, w ∈ b.free ∧
      hasSkill (m.worker w).skills (m.task t).name = true ∧ teamTargets m w t = true)
    (fun w b => w ∈ b.free → canAdd m b.l t (some w) Option.none = false)
    (fun w cs b ⟨hnd, hall⟩ => ?_)
    (fun w b c hr hq hw => hr.pass.canAdd_false (hq (hr.pass.free_sub w hw))) cs acc ⟨hnd, hall⟩
  obtain ⟨hwc, hnd'⟩ := List.nodup_cons.mp hnd
  obtain ⟨hw, hs, ht⟩ := hall w List.mem_cons_self
  have hall' := fun w' hw' => hall w' (List.mem_cons_of_mem _ hw')
  by_cases hcan : canAdd m b.l t (some w) Option.none = true
  · rw [show wStep m t b w = { b with l := giveW b.l t w, free := b.free.filter (· != w) } from
      if_pos hcan]
    -- `w` leaves the free list for good; the candidates still to come are others and stay in it
    exact ⟨Reach.single rfl (Act.worker b w hna hnf hw hs ht hcan),
      ⟨hnd', fun w' hw' => ⟨List.mem_filter.mpr ⟨(hall' w' hw').1,
        by simpa using fun e : w' = w => hwc (e ▸ hw')⟩, (hall' w' hw').2⟩⟩,
      fun hfree => by simp at hfree⟩
  · rw [show wStep m t b w = b from if_neg hcan]
    exact ⟨Reach.refl b, ⟨hnd', hall'⟩, fun _ => by simpa using hcan⟩

theorem allocWorkers_turn (hna : (m.task t).isAuto = false) (hnf : (m.task t).needFac = false)
    {a : Alloc} (hnd : a.free.Nodup) :
    Reach m (· = t) a (allocWorkers m t a) ∧ Settled m (allocWorkers m t a) t Option.none := by
  rw [allocWorkers_fold]
  have hperm := Sort.sortWorkers_perm m (m.task t).wRule (m.task t).name Option.none a.free
  have h0 := Reach.single (m := m) (T := (· = t)) rfl (Act.perm a _ hperm)
  have hnd' := hperm.nodup_iff.mpr hnd
  generalize sortWorkers m (m.task t).wRule (m.task t).name Option.none a.free = fr at h0 hnd' ⊢
  obtain ⟨h1, h2⟩ := foldl_wStep hna hnf (fr.filter fun w =>
      hasSkill (m.worker w).skills (m.task t).name && teamTargets m w t)
    { a with free := fr } (hnd'.sublist List.filter_sublist) fun w hw => by
      simpa [and_assoc] using List.mem_filter.mp hw
  exact ⟨h0.trans h1, fun w hw hs ht =>
    h2 w (List.mem_filter.mpr ⟨h1.pass.free_sub w hw, by simp [hs, ht]⟩) hw⟩

theorem pStep_reach (hna : (m.task t).isAuto = false) (hnf : (m.task t).needFac = true)
    {c p f : Nat} {acc : Alloc} (hc : (m.task t).comp = some c) (hp : acc.l.placed c = some p)
    (hf : f ∈ pairFacs m t p acc.l) : Reach m (· = t) acc (pStep m t p acc f) := by
  obtain ⟨h1, h2, _, h4⟩ := mem_pairFacs.mp hf
  rcases pStep_cases m t p acc f with ⟨e, _⟩ | ⟨w, hw, hs, ht, hcan, e⟩ <;> rw [e]
  · exact Reach.refl acc
  · exact Reach.single (T := (· = t)) rfl
      (Act.pair acc w f c p hna hnf hc hp h1 h2 h4 hw hs ht hcan)

theorem pStep_placed_fstate (p : Nat) (acc : Alloc) (f : Nat) :
    (pStep m t p acc f).l.placed = acc.l.placed ∧ (pStep m t p acc f).l.fstate = acc.l.fstate := by
  -- `giveF`, `giveW` unfolded first: `rfl` through them is dear
  unfold pStep giveF giveW; split <;> exact ⟨rfl, rfl⟩

theorem pStep_settled (p : Nat) (acc : Alloc) (f : Nat) :
    Settled m (pStep m t p acc f) t (some f) := by
  intro w hw hs ht
  rcases pStep_cases m t p acc f with ⟨e, hnil⟩ | ⟨w', _, _, _, _, e⟩ <;> rw [e] at hw ⊢
  · cases hc : canAdd m acc.l t (some w) (some f) with
    | false => rfl
    | true =>
      have : w ∈ pairWorkers m t acc f := List.mem_filter.mpr ⟨hw, by simp [hs, ht, hc]⟩
      rw [hnil] at this; cases this
  · -- `f` has just been given away: it is assigned
    rw [canAdd_false_iff]
    intro h
    have := h.1.fasg f rfl
    simp [giveF, giveW] at this

theorem foldl_pStep (hna : (m.task t).isAuto = false) (hnf : (m.task t).needFac = true)
    {c p : Nat} (hc : (m.task t).comp = some c) (l0 : Live) (fs : List Nat) (acc : Alloc)
    (h1 : acc.l.placed c = some p) (h2 : acc.l.fstate = l0.fstate)
    (hall : ∀ f ∈ fs, f ∈ pairFacs m t p l0) :
    Reach m (· = t) acc (fs.foldl (pStep m t p) acc) ∧
    ∀ f ∈ fs, Settled m (fs.foldl (pStep m t p) acc) t (some f) := by
  refine Reach.foldl (pStep m t p)
    (fun fs b => b.l.placed c = some p ∧ b.l.fstate = l0.fstate ∧ ∀ f ∈ fs, f ∈ pairFacs m t p l0)
    (fun f b => Settled m b t (some f)) (fun f fs b ⟨h1, h2, hall⟩ => ?_)
    (fun _ _ _ hr hq => hq.reach hr) fs acc ⟨h1, h2, hall⟩
  obtain ⟨e1, e2⟩ := pStep_placed_fstate (m := m) (t := t) p b f
  have hf : f ∈ pairFacs m t p b.l := by
    have := hall f List.mem_cons_self
    unfold pairFacs at this ⊢; rw [h2]; exact this
  exact ⟨pStep_reach hna hnf hc h1 hf,
    ⟨e1 ▸ h1, e2 ▸ h2, fun f' hf' => hall f' (List.mem_cons_of_mem _ hf')⟩, pStep_settled p b f⟩

theorem allocPairs_turn (hna : (m.task t).isAuto = false) (hnf : (m.task t).needFac = true)
    (a : Alloc) :
    Reach m (· = t) a (allocPairs m t a) ∧
    ∀ c p, (m.task t).comp = some c → a.l.placed c = some p → ∀ f ∈ pairFacs m t p a.l,
      Settled m (allocPairs m t a) t (some f) := by
  rw [allocPairs_eq]
  cases hc : (m.task t).comp with
  | none => exact ⟨Reach.refl a, fun _ _ hc' => nomatch hc'⟩
  | some c =>
    dsimp only
    cases hp : a.l.placed c with
    | none =>
      exact ⟨Reach.refl a, fun _ _ hc' hp' => by cases hc'; rw [hp] at hp'; cases hp'⟩
    | some p =>
      have h := foldl_pStep hna hnf hc a.l _ a hp rfl fun _ hf => hf
      exact ⟨h.1, fun _ _ hc' hp' => by cases hc'; rw [hp] at hp'; cases hp'; exact h.2⟩

theorem allocTask_reach (m : Model) (t : Nat) {a : Alloc} (hnd : a.free.Nodup) :
    Reach m (· = t) a (allocTask m a t) := by
  rw [allocTask_eq]
  have h1 : Reach m (· = t) a (allocHead m a t) := allocHead_reach a
  split
  · exact h1
  · rename_i hna
    have hna : (m.task t).isAuto = false := by simpa using hna
    split
    · rename_i hnf; exact h1.trans (allocPairs_turn hna hnf _).1
    · rename_i hnf
      exact h1.trans
        (allocWorkers_turn hna (by simpa using hnf) (by rw [allocHead_free]; exact hnd)).1

theorem allocTask_settled (hna : (m.task t).isAuto = false) (hnf : (m.task t).needFac = false)
    {a : Alloc} (hnd : a.free.Nodup) : Settled m (allocTask m a t) t Option.none := by
  rw [allocTask_eq]
  simp only [hna, hnf, Bool.false_eq_true, if_false]
  exact (allocWorkers_turn hna hnf (by rw [allocHead_free]; exact hnd)).2

/-- `p` is where the component stands after the turn, which may have moved it there -/
theorem allocTask_settled_pair (hna : (m.task t).isAuto = false) (hnf : (m.task t).needFac = true)
    (a : Alloc) {c p f : Nat} (hc : (m.task t).comp = some c)
    (hp : (allocTask m a t).l.placed c = some p) (hf : f ∈ (m.wp p).facs)
    (hff : a.l.fstate f = .free) (hfs : hasSkill (m.fac f).skills (m.task t).name = true)
    (hft : wpTargets m f t = true) : Settled m (allocTask m a t) t (some f) := by
  rw [(allocTask_placing m a t).1] at hp
  rw [allocTask_eq]
  simp only [hna, hnf, Bool.false_eq_true, if_false, if_true]
  refine (allocPairs_turn hna hnf (allocHead m a t)).2 c p hc hp f
    (mem_pairFacs.mpr ⟨hf, ?_, hfs, hft⟩)
  rw [(allocHead_reach (t := t) a).pass.fstate]; exact hff

end reach

/-! ### the whole pass -/

theorem foldl_allocTask_reach (m : Model) (ts : List Nat) {a : Alloc} (hnd : a.free.Nodup) :
    Reach m (· ∈ ts) a (ts.foldl (allocTask m) a) :=
  (Reach.foldl (allocTask m) (fun xs b => b.free.Nodup ∧ ∀ x ∈ xs, x ∈ ts) (fun _ _ => True)
    (fun t _ _ ⟨hb, hx⟩ =>
      have h := (allocTask_reach m t hb).mono (T' := (· ∈ ts))
        fun t' (e : t' = t) => e.symm ▸ hx t List.mem_cons_self
      ⟨h, ⟨h.pass.nodup hb, fun x hx' => hx x (List.mem_cons_of_mem _ hx')⟩, trivial⟩)
    (fun _ _ _ _ _ => trivial) ts a ⟨hnd, fun _ hx => hx⟩).1

theorem allocate_reach (m : Model) (lg : Logs) (rule : TaskRule) (l : Live) :
    ∃ b : Alloc, Reach m (· ∈ sortTasks m l lg rule (NoWait.cands m l))
        { l := l, free := Elig.freeOf m l } b ∧ allocate m lg rule l = b.l :=
  ⟨_, foldl_allocTask_reach m _ (Elig.freeOf_nodup m l), allocate_fold m lg rule l⟩

theorem allocate_frame (m : Model) (lg : Logs) (rule : TaskRule) (l : Live) :
    allocate m lg rule l =
      { l with allocW := (allocate m lg rule l).allocW, allocF := (allocate m lg rule l).allocF,
               wasg := (allocate m lg rule l).wasg, fasg := (allocate m lg rule l).fasg,
               placed := (allocate m lg rule l).placed,
               wpComps := (allocate m lg rule l).wpComps } := by
  obtain ⟨b, hr, e⟩ := allocate_reach m lg rule l
  rw [e]; exact hr.pass.frame

/-- `Pass` between the state `l0` a pass starts from (whatever it is) and its result, read on the
live states alone: who gained something was a candidate below `nT`, what was gained a FREE worker
of the model resp. a FREE unassigned facility of some workplace, given together with a worker. -/
structure AfterPass (m : Model) (l0 l : Live) : Prop where
  ts : l.tstate = l0.tstate
  ws : l.wstate = l0.wstate
  fs : l.fstate = l0.fstate
  prefixW : ∀ t, l0.allocW t <+: l.allocW t
  prefixF : ∀ t, l0.allocF t <+: l.allocF t
  wasg_nil : ∀ w, l.wasg w = [] → l0.wasg w = []
  fasg_nil : ∀ f, l.fasg f = [] → l0.fasg f = []
  srcW : ∀ t w, w ∈ l.allocW t → w ∈ l0.allocW t ∨ (t < m.nT ∧ w < m.nW ∧ l0.wstate w = .free)
  srcF : ∀ t f, f ∈ l.allocF t → f ∈ l0.allocF t ∨
    (t < m.nT ∧ l0.fstate f = .free ∧ l0.fasg f = [] ∧ l.allocW t ≠ [] ∧
      ∃ c p, (m.task t).comp = some c ∧ f ∈ (m.wp p).facs)

theorem AfterPass.refl {m : Model} (l : Live) : AfterPass m l l :=
  ⟨rfl, rfl, rfl, fun _ => List.prefix_refl _, fun _ => List.prefix_refl _, fun _ h => h,
    fun _ h => h, fun _ _ => Or.inl, fun _ _ => Or.inl⟩

theorem allocate_afterPass (m : Model) (lg : Logs) (rule : TaskRule) (l : Live) :
    AfterPass m l (allocate m lg rule l) := by
  obtain ⟨b, hr, e⟩ := allocate_reach m lg rule l
  have hlt : ∀ t, t ∈ sortTasks m l lg rule (NoWait.cands m l) → t < m.nT :=
    fun t ht => (NoWait.mem_cands.mp (Sort.mem_sortTasks.mp ht)).1
  have hp := hr.pass
  rw [e]
  exact ⟨hp.tstate, hp.wstate, hp.fstate, hp.prefixW, hp.prefixF, hp.wasg_nil, hp.fasg_nil,
    fun t w hm => (hp.srcW t w hm).imp id fun ⟨ht, hw⟩ =>
      ⟨hlt t ht, (Elig.mem_freeOf.mp hw).1, (Elig.mem_freeOf.mp hw).2⟩,
    fun t f hm => (hp.srcF t f hm).imp id fun ⟨ht, hn, hf, hne, hcp⟩ =>
      ⟨hlt t ht, hf, hn, hne, hcp⟩⟩

theorem AfterPass.allocate_or_skip (m : Model) (lg : Logs) (rule : TaskRule) (wk : Bool) (l1 : Live) :
    AfterPass m l1 (if wk then allocate m lg rule l1 else l1) := by
  cases wk
  · exact AfterPass.refl l1
  · exact allocate_afterPass m lg rule l1

/-! ### cut at the turn of a task, the pass tells what was on offer then: whoever is idle at the end
or goes to a later task -/

/-- The pass of `allocate m lg rule l` cut at the turn of `t`: the sorted candidates are
`pre ++ t :: post`, `a0` is the accumulator when the loop reaches `t`, `a1` the one after the
turn of `t`, `b` the one at the end. -/
structure Turn (m : Model) (lg : Logs) (rule : TaskRule) (l : Live) (pre : List Nat) (t : Nat)
    (post : List Nat) (a0 a1 b : Alloc) : Prop where
  cut : sortTasks m l lg rule (NoWait.cands m l) = pre ++ t :: post
  start : a0 = pre.foldl (allocTask m) { l := l, free := Elig.freeOf m l }
  before : Reach m (· ∈ pre) { l := l, free := Elig.freeOf m l } a0
  nodup : a0.free.Nodup
  turn : a1 = allocTask m a0 t
  finish : b = post.foldl (allocTask m) a1
  after : Reach m (· ∈ post) a1 b
  result : allocate m lg rule l = b.l

theorem allocate_split {m : Model} {lg : Logs} {rule : TaskRule} {l : Live} {pre post : List Nat}
    {t : Nat} (e : sortTasks m l lg rule (NoWait.cands m l) = pre ++ t :: post) :
    ∃ a0 a1 b, Turn m lg rule l pre t post a0 a1 b := by
  have h1 := foldl_allocTask_reach m pre (a := { l := l, free := Elig.freeOf m l })
    (Elig.freeOf_nodup m l)
  have n1 := h1.pass.nodup (Elig.freeOf_nodup m l)
  have n2 := (allocTask_reach m t n1).pass.nodup n1
  exact ⟨_, _, _, e, rfl, h1, n1, rfl, rfl, foldl_allocTask_reach m post n2, by
    rw [allocate_fold, e, List.foldl_append, List.foldl_cons]⟩

theorem allocate_turn {m : Model} {lg : Logs} {rule : TaskRule} {l : Live} {t : Nat}
    (ht : t < m.nT) (hs : l.tstate t = .ready ∨ l.tstate t = .working) :
    ∃ pre post a0 a1 b, Turn m lg rule l pre t post a0 a1 b := by
  obtain ⟨pre, post, e⟩ := List.append_of_mem
    (Sort.mem_sortTasks.mpr (NoWait.mem_cands.mpr ⟨ht, hs⟩) : t ∈ sortTasks m l lg rule _)
  exact ⟨pre, post, allocate_split e⟩

namespace Turn
variable {m : Model} {lg : Logs} {rule : TaskRule} {l : Live} {pre post : List Nat} {t : Nat}
  {a0 a1 b : Alloc}

theorem once (h : Turn m lg rule l pre t post a0 a1 b) :
    t ∉ pre ∧ t ∉ post ∧ ∀ t2 ∈ post, t2 ∉ pre := by
  have hnd := NoWait.sorted_nodup m l lg rule
  rw [h.cut, List.nodup_append] at hnd
  obtain ⟨_, h2, h3⟩ := hnd
  exact ⟨fun hm => h3 t hm t List.mem_cons_self rfl, (List.nodup_cons.mp h2).1,
    fun t2 hm hp => h3 t2 hp t2 (List.mem_cons_of_mem _ hm) rfl⟩

theorem lt (h : Turn m lg rule l pre t post a0 a1 b) {t' : Nat} (ht' : t' ∈ pre ++ t :: post) :
    t' < m.nT :=
  (NoWait.mem_cands.mp (Sort.mem_sortTasks.mp (h.cut ▸ ht'))).1

theorem rest (h : Turn m lg rule l pre t post a0 a1 b) : Reach m (· ∈ t :: post) a0 b :=
  ((h.turn ▸ allocTask_reach m t h.nodup).mono fun _ e => List.mem_cons.mpr (Or.inl e)).trans
    (h.after.mono fun _ h' => List.mem_cons_of_mem _ h')

theorem refused (h : Turn m lg rule l pre t post a0 a1 b) {f : Option Nat}
    (hset : Settled m a1 t f) {w : Nat} (hw : w ∈ a1.free)
    (hs : hasSkill (m.worker w).skills (m.task t).name = true) (ht : teamTargets m w t = true) :
    canAdd m (allocate m lg rule l) t (some w) f = false :=
  h.result ▸ h.after.pass.canAdd_false (hset w hw hs ht)

theorem free_of_idle (h : Turn m lg rule l pre t post a0 a1 b) {w : Nat} (hw : w < m.nW)
    (hfree : l.wstate w = .free) (hidle : (allocate m lg rule l).wasg w = []) : w ∈ a1.free :=
  -- idle at the end, `w` has been in the free list from the start of the pass to its end
  have hb : b.l.wasg w = [] := h.result ▸ hidle
  h.after.pass.free_sub w (h.rest.pass.keep w
    (h.before.pass.keep w (Elig.mem_freeOf.mpr ⟨hw, hfree⟩) (h.rest.pass.wasg_nil w hb)) hb)

theorem later (h : Turn m lg rule l pre t post a0 a1 b) {t2 : Nat} (h2 : t2 ∈ post) :
    a1.l.allocW t2 = l.allocW t2 ∧ a1.l.allocF t2 = l.allocF t2 := by
  have h12 : t2 ≠ t := fun e => h.once.2.1 (e ▸ h2)
  have hp := allocTask_reach m t h.nodup
  rw [h.turn, hp.pass.otherW t2 h12, hp.pass.otherF t2 h12,
    h.before.pass.otherW t2 (h.once.2.2 t2 h2), h.before.pass.otherF t2 (h.once.2.2 t2 h2)]
  exact ⟨rfl, rfl⟩

theorem free_of_later (h : Turn m lg rule l pre t post a0 a1 b) {t2 w : Nat} (h2 : t2 ∈ post)
    (hnew : w ∈ (allocate m lg rule l).allocW t2) (hold : w ∉ l.allocW t2) : w ∈ a1.free := by
  rw [h.result] at hnew
  rcases h.after.pass.srcW t2 w hnew with h' | h'
  · exact absurd ((h.later h2).1 ▸ h') hold
  · exact h'.2

theorem unassigned_of_later (h : Turn m lg rule l pre t post a0 a1 b) {t2 f : Nat} (h2 : t2 ∈ post)
    (hnew : f ∈ (allocate m lg rule l).allocF t2) (hold : f ∉ l.allocF t2) : a1.l.fasg f = [] := by
  rw [h.result] at hnew
  rcases h.after.pass.srcF t2 f hnew with h' | h'
  · exact absurd ((h.later h2).2 ▸ h') hold
  · exact h'.2.1

end Turn

end PDesy
