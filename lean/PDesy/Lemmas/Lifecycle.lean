/-
  PDesy.Lemmas.Lifecycle — task and component states through the phases, `__update` and one loop
  step (C01, C14): what each of `check_state(FINISHED / READY / WORKING)` does to one task's
  state (`Finish.Closes`, `Idem.NR`, `Perform.Start`), from which `Mono` and `DepInv` follow; the
  pieces `stepBody` is made of; `compCheck` re-establishes `CompInv` after any monotone change of
  the task states, and along a run no component goes back (`CompForward`).  Then the state the loop
  is entered with (`initProject_*`, `enter_*`, the invariants at `enter`), and the example model
  `exM` of C01 and C14.
-/
import PDesy.Lemmas.Finish
import PDesy.Lemmas.Loop
import PDesy.Lemmas.AllocLoop
import PDesy.Lemmas.Fast
import PDesy.Lemmas.PertBase
import PDesy.Model.SubProject

namespace PDesy
namespace Lifecycle

open Finish Perform Idem

variable (m : Model)

/-! Task states are written by `check_state(FINISHED / READY / WORKING)` only, component states by
`product.check_state` only. -/

@[simp] theorem compCheck_tstate (l : Live) : (compCheck m l).tstate = l.tstate := by
  rw [compCheck_eq]

theorem removeOne_tstate (l : Live) (c : Nat) : (removeOne l c).tstate = l.tstate := by
  rw [removeOne_frame]

@[simp] theorem chkRemove_tstate (l : Live) : (chkRemove m l).tstate = l.tstate := by
  rw [chkRemove_frame]

@[simp] theorem chkRemove_cstate (l : Live) : (chkRemove m l).cstate = l.cstate := by
  rw [chkRemove_frame]

@[simp] theorem pert_tstate (time : Nat) (l : Live) : (pert m time l).tstate = l.tstate := by
  rw [pert_frame]
@[simp] theorem pert_cstate (time : Nat) (l : Live) : (pert m time l).cstate = l.cstate := by
  rw [pert_frame]

@[simp] theorem absenceSet_tstate (time : Nat) (w : Bool) (l : Live) :
    (absenceSet m time w l).tstate = l.tstate := by rw [absenceSet_eq]
@[simp] theorem absenceSet_cstate (time : Nat) (w : Bool) (l : Live) :
    (absenceSet m time w l).cstate = l.cstate := by rw [absenceSet_eq]

@[simp] theorem perform_tstate (w a : Bool) (l : Live) : (perform m w a l).tstate = l.tstate := by
  rw [perform_eq]
@[simp] theorem perform_cstate (wk a : Bool) (l : Live) : (perform m wk a l).cstate = l.cstate := by
  rw [perform_eq]

@[simp] theorem chkReady_cstate (l : Live) : (chkReady m l).cstate = l.cstate := by
  rw [chkReady_eq]

@[simp] theorem chkFinished_cstate (l : Live) : (chkFinished m l).cstate = l.cstate := by
  rw [chkFinished_frame]

@[simp] theorem chkWorking_cstate (l : Live) : (chkWorking m l).cstate = l.cstate := by
  rw [chkWorking_frame]

@[simp] theorem allocate_tstate (lg : Logs) (rule : TaskRule) (l : Live) :
    (allocate m lg rule l).tstate = l.tstate := by rw [allocate_frame]

@[simp] theorem allocate_cstate (lg : Logs) (rule : TaskRule) (l : Live) :
    (allocate m lg rule l).cstate = l.cstate := by rw [allocate_frame]

theorem chkFinished_mono (l : Live) : Mono l.tstate (chkFinished m l).tstate :=
  (chkFinished_closes m l).mono

theorem chkReady_tstate (l : Live) (t : Nat) :
    (chkReady m l).tstate t =
      if t < m.nT && l.tstate t == .none && readyGate m l.tstate t then .ready else l.tstate t := by
  rw [chkReady_eq]

theorem chkReady_cases (l : Live) (t : Nat) :
    (chkReady m l).tstate t = l.tstate t ∨
    (l.tstate t = .none ∧ (chkReady m l).tstate t = .ready ∧ readyGate m l.tstate t = true) := by
  rw [chkReady_tstate]
  by_cases h : (t < m.nT && l.tstate t == .none && readyGate m l.tstate t) = true
  · rw [if_pos h]
    simp only [Bool.and_eq_true, beq_iff_eq] at h
    exact Or.inr ⟨h.1.2, rfl, h.2⟩
  · rw [if_neg h]; exact Or.inl rfl

theorem chkReady_NR (l : Live) : NR l.tstate (chkReady m l).tstate := fun t =>
  (chkReady_cases m l t).imp id fun h => ⟨h.1, h.2.1⟩

theorem chkReady_keeps (l : Live) (t : Nat) (h : l.tstate t = .ready ∨ l.tstate t = .working) :
    (chkReady m l).tstate t = l.tstate t :=
  (chkReady_NR m l t).resolve_right fun ⟨e, _⟩ => by
    rcases h with h | h <;> rw [h] at e <;> cases e

theorem chkReady_mono (l : Live) : Mono l.tstate (chkReady m l).tstate :=
  (chkReady_NR m l).mono

theorem chkReady_readyGate (l : Live) (t : Nat) :
    readyGate m (chkReady m l).tstate t = readyGate m l.tstate t :=
  readyGate_congr m (chkReady_NR m l).gates t

theorem chkReady_complete (l : Live) (t : Nat) (ht : t < m.nT) :
    ¬ ((chkReady m l).tstate t = .none ∧ readyGate m (chkReady m l).tstate t = true) := by
  rintro ⟨h1, h2⟩
  rw [chkReady_readyGate] at h2
  rw [chkReady_tstate] at h1
  split at h1
  · cases h1
  · rename_i hc
    apply hc
    simp [ht, h1, h2]

theorem startOne_tstate (l : Live) (t : Nat) :
    (startOne m l t).tstate = if l.tstate t = .ready then upd l.tstate t .working else l.tstate := by
  rw [startOne_eq]

theorem chkWorking_start (l : Live) : Start l.tstate (chkWorking m l).tstate := by
  intro t
  rw [chkWorking_tstate]
  split
  · rename_i h; exact Or.inr ⟨h.2.2, rfl⟩
  · exact Or.inl rfl

theorem chkWorking_mono (l : Live) : Mono l.tstate (chkWorking m l).tstate :=
  (chkWorking_start m l).mono

theorem update_tstate (time : Nat) (l : Live) :
    (update m time l).tstate = (chkReady m (chkFinished m l)).tstate := by
  rw [update_frame]

theorem update_NR (time : Nat) (l : Live) : NR (chkFinished m l).tstate (update m time l).tstate := by
  rw [update_tstate]; exact chkReady_NR m _

theorem update_finished_iff (time : Nat) (l : Live) (t : Nat) :
    (update m time l).tstate t = .finished ↔ (chkFinished m l).tstate t = .finished :=
  ((update_NR m time l).gates t).1

theorem update_finishGate (time : Nat) (l : Live) (t : Nat) :
    finishGate m (update m time l).tstate t = finishGate m (chkFinished m l).tstate t :=
  finishGate_congr m (update_NR m time l).gates t

theorem update_mono (time : Nat) (l : Live) : Mono l.tstate (update m time l).tstate := by
  rw [update_tstate]
  exact Mono.trans (chkFinished_mono m l) (chkReady_mono m _)

/-! One step is `perform (compCheck (chkWorkingIf (startGuard p s) m (preWorking m p s)))`
(`stepBody_live`); the pieces have names so that they can be rewritten one at a time. -/

/-- the live state `check_state(WORKING)` acts on in `stepBody` -/
def preWorking (m : Model) (p : Params) (s : St) : Live :=
  if !(p.absence.contains s.time) then
    allocate m s.logs p.rule (absenceSet m s.time (!(p.absence.contains s.time)) s.live)
  else absenceSet m s.time (!(p.absence.contains s.time)) s.live

theorem preWorking_frame (p : Params) (s : St) :
    preWorking m p s =
      { s.live with wstate := (preWorking m p s).wstate, fstate := (preWorking m p s).fstate,
                    allocW := (preWorking m p s).allocW, allocF := (preWorking m p s).allocF,
                    wasg := (preWorking m p s).wasg, fasg := (preWorking m p s).fasg,
                    placed := (preWorking m p s).placed, wpComps := (preWorking m p s).wpComps } := by
  unfold preWorking
  split
  · rw [allocate_frame, absenceSet_eq]
  · rw [absenceSet_eq]

theorem preWorking_off (p : Params) (s : St) (h : p.absence.contains s.time = true) :
    preWorking m p s = absenceSet m s.time false s.live := by
  unfold preWorking; rw [h]; rfl

theorem preWorking_on (p : Params) (s : St) (h : p.absence.contains s.time = false) :
    preWorking m p s = allocate m s.logs p.rule (absenceSet m s.time true s.live) := by
  unfold preWorking; rw [h]; rfl

theorem preWorking_tstate (p : Params) (s : St) : (preWorking m p s).tstate = s.live.tstate := by
  rw [preWorking_frame]

theorem preWorking_cstate (p : Params) (s : St) : (preWorking m p s).cstate = s.live.cstate := by
  rw [preWorking_frame]

theorem preWorking_afterPass (p : Params) (s : St) :
    AfterPass m (absenceSet m s.time (!(p.absence.contains s.time)) s.live) (preWorking m p s) :=
  AfterPass.allocate_or_skip m s.logs p.rule (!(p.absence.contains s.time)) _

/-- `check_state(WORKING)` under the guard of `stepBody`: it runs on working steps and, with the
flag set, on project absence steps; otherwise nothing starts -/
def chkWorkingIf (b : Bool) (m : Model) (l : Live) : Live := if b then chkWorking m l else l

@[simp] theorem chkWorkingIf_true (l : Live) : chkWorkingIf true m l = chkWorking m l := rfl
@[simp] theorem chkWorkingIf_false (l : Live) : chkWorkingIf false m l = l := rfl

/-- the guard of `check_state(WORKING)` in `stepBody` -/
def startGuard (p : Params) (s : St) : Bool := !(p.absence.contains s.time) || p.autoFlag

theorem startGuard_eq_activeAt (p : Params) (s : St) : startGuard p s = activeAt p s.time := rfl

theorem startGuard_of_working (p : Params) (s : St) (h : p.absence.contains s.time = false) :
    startGuard p s = true := by unfold startGuard; rw [h]; rfl

theorem chkWorkingIf_frame (b : Bool) (l : Live) :
    chkWorkingIf b m l =
      { l with tstate := (chkWorkingIf b m l).tstate, wstate := (chkWorkingIf b m l).wstate,
               fstate := (chkWorkingIf b m l).fstate } := by
  cases b
  · rfl
  · exact chkWorking_frame m l

theorem chkWorkingIf_start (b : Bool) (l : Live) : Start l.tstate (chkWorkingIf b m l).tstate := by
  cases b
  · exact Start.refl _
  · exact chkWorking_start m l

@[simp] theorem chkWorkingIf_cstate (b : Bool) (l : Live) :
    (chkWorkingIf b m l).cstate = l.cstate := by
  rw [chkWorkingIf_frame]

theorem stepBody_live (p : Params) (s : St) :
    (stepBody m p s).live =
      perform m (!(p.absence.contains s.time)) p.autoFlag
        (compCheck m (chkWorkingIf (startGuard p s) m (preWorking m p s))) := rfl

theorem stepBody_frame (p : Params) (s : St) :
    (stepBody m p s).live =
      { preWorking m p s with
        tstate := (stepBody m p s).live.tstate, wstate := (stepBody m p s).live.wstate,
        fstate := (stepBody m p s).live.fstate, cstate := (stepBody m p s).live.cstate,
        rem := (stepBody m p s).live.rem } := by
  -- with the five written fields as variables, `rw [h]` replaces the step on both sides and its
  -- closing `rfl` compares record literals; rewriting the goal directly leaves a `rfl` that has to
  -- unfold `stepBody` on the right-hand side
  have key : ∃ a b c d e, (stepBody m p s).live =
      { preWorking m p s with tstate := a, wstate := b, fstate := c, cstate := d, rem := e } := by
    rw [stepBody_live, perform_eq, compCheck_eq, chkWorkingIf_frame]
    exact ⟨_, _, _, _, _, rfl⟩
  obtain ⟨a, b, c, d, e, h⟩ := key
  rw [h]

theorem stepBody_allocW (p : Params) (s : St) :
    (stepBody m p s).live.allocW = (preWorking m p s).allocW := by
  rw [stepBody_frame]

theorem stepBody_allocF (p : Params) (s : St) :
    (stepBody m p s).live.allocF = (preWorking m p s).allocF := by
  rw [stepBody_frame]

/-- a project absence step skips `allocate`, and `absenceSet` only writes resource states -/
theorem stepBody_lists_off (p : Params) (s : St) (h : p.absence.contains s.time = true) :
    (stepBody m p s).live.allocW = s.live.allocW ∧ (stepBody m p s).live.allocF = s.live.allocF ∧
    (stepBody m p s).live.wasg = s.live.wasg ∧ (stepBody m p s).live.fasg = s.live.fasg := by
  rw [stepBody_frame, preWorking_off m p s h, absenceSet_eq]
  exact ⟨rfl, rfl, rfl, rfl⟩

theorem stepBody_tstate (p : Params) (s : St) :
    (stepBody m p s).live.tstate =
      (chkWorkingIf (startGuard p s) m (preWorking m p s)).tstate := by
  rw [stepBody_live, perform_eq, compCheck_eq]

theorem stepBody_tstate_inactive (p : Params) (s : St) (h : startGuard p s = false) :
    (stepBody m p s).live.tstate = s.live.tstate := by
  rw [stepBody_tstate, h, chkWorkingIf_false, preWorking_tstate]

theorem stepBody_start (p : Params) (s : St) : Start s.live.tstate (stepBody m p s).live.tstate := by
  rw [stepBody_tstate]
  have h := chkWorkingIf_start m (startGuard p s) (preWorking m p s)
  rwa [preWorking_tstate] at h

theorem stepBody_mono (p : Params) (s : St) : Mono s.live.tstate (stepBody m p s).live.tstate :=
  (stepBody_start m p s).mono

theorem mono_trace (p : Params) (fuel : Nat) (s : St) :
    List.Pairwise (fun a b => Mono a.live.tstate b.live.tstate) (s :: trace m p fuel s) :=
  LoopInv.of_true.trace_pairwise (fun a b => Mono a.live.tstate b.live.tstate)
    (fun _ _ _ => Mono.trans) (fun s _ => update_mono m s.time s.live)
    (fun s _ _ => stepBody_mono m p s) trivial fuel

theorem DepInv_chkFinished (l : Live) (h : DepInv m l.tstate) : DepInv m (chkFinished m l).tstate := by
  refine DepInv_step m h (chkFinished_mono m l) (fun t _ h0 hne => ?_)
    (fun t _ h0 hf => (chkFinished_gated l t hf).resolve_left h0)
  rcases chkFinished_closes m l t with ⟨e, _⟩ | ⟨e, _⟩
  · exact absurd (e.trans h0) hne
  · rw [h0] at e; cases e

theorem DepInv_chkReady (l : Live) (h : DepInv m l.tstate) : DepInv m (chkReady m l).tstate := by
  have hmono := chkReady_mono m l
  refine DepInv_step m h hmono (fun t _ h0 hne => ?_) (fun t _ h0 hf => ?_)
  · rcases chkReady_cases m l t with e | ⟨_, _, hg⟩
    · exact absurd (e.trans h0) hne
    · exact readyGate_mono m hmono t hg
  · exact absurd (((chkReady_NR m l).gates t).1.mp hf) h0

theorem DepInv_update (time : Nat) (l : Live) (h : DepInv m l.tstate) :
    DepInv m (update m time l).tstate := by
  rw [update_tstate]
  exact DepInv_chkReady m _ (DepInv_chkFinished m l h)

theorem DepInv_loopInv (p : Params) : LoopInv m p (fun s => DepInv m s.live.tstate) :=
  .of_live (I := fun l => DepInv m l.tstate) (DepInv_update m)
    fun s h => (stepBody_start m p s).depInv h

theorem all_map_beq_iff (ts : Nat → TS) (xs : List Nat) (v : TS) :
    (xs.map ts).all (· == v) = true ↔ ∀ t ∈ xs, ts t = v := by
  simp [List.all_eq_true]

theorem any_map_beq_iff (ts : Nat → TS) (xs : List Nat) (v : TS) :
    (xs.map ts).any (· == v) = true ↔ ∃ t ∈ xs, ts t = v := by
  simp [List.any_eq_true]

/-- the "not all WORKING, not all FINISHED" part of the READY test of `BaseComponent.check_state`
is implied where it is reached -/
theorem compNext_eq (l : Live) (c : Nat) :
    compNext m l c =
      if ∀ t ∈ (m.comp c).tasks, l.tstate t = .finished then .finished
      else if ∃ t ∈ (m.comp c).tasks, l.tstate t = .working then .working
      else if ∃ t ∈ (m.comp c).tasks, l.tstate t = .ready then .ready else l.cstate c := by
  unfold compNext
  dsimp only
  by_cases hF : ∀ t ∈ (m.comp c).tasks, l.tstate t = .finished
  · rw [if_pos hF, if_pos ((all_map_beq_iff ..).mpr hF)]
  · rw [if_neg hF, if_neg (mt (all_map_beq_iff ..).mp hF)]
    by_cases hW : ∃ t ∈ (m.comp c).tasks, l.tstate t = .working
    · rw [if_pos hW, if_pos ((any_map_beq_iff ..).mpr hW)]
    · rw [if_neg hW, if_neg (mt (any_map_beq_iff ..).mp hW)]
      by_cases hR : ∃ t ∈ (m.comp c).tasks, l.tstate t = .ready
      · rw [if_pos hR, if_pos]
        have hA : ¬ ((m.comp c).tasks.map l.tstate).all (· == .working) = true := fun h => by
          obtain ⟨t, ht, hr⟩ := hR
          rw [(all_map_beq_iff ..).mp h t ht] at hr; cases hr
        simp only [Bool.and_eq_true, Bool.not_eq_true', Bool.eq_false_iff]
        exact ⟨⟨hA, mt (all_map_beq_iff ..).mp hF⟩, (any_map_beq_iff ..).mpr hR⟩
      · rw [if_neg hR, if_neg]
        intro h
        simp only [Bool.and_eq_true] at h
        exact hR ((any_map_beq_iff ..).mp h.2)

theorem compCheck_cstate (l : Live) (c : Nat) :
    (compCheck m l).cstate c = if c < m.nC then compNext m l c else l.cstate c := by
  rw [compCheck_eq]

/-- `h` is the part of `CompInv` that survives a monotone change of task states -/
theorem CompInv_compCheck_of_weak (l : Live)
    (h : ∀ c, c < m.nC → l.cstate c = .finished → ∀ t ∈ (m.comp c).tasks, l.tstate t = .finished) :
    CompInv m (compCheck m l) := by
  intro c hc
  rw [compCheck_cstate, if_pos hc, compCheck_tstate, compNext_eq]
  by_cases hF : ∀ t ∈ (m.comp c).tasks, l.tstate t = .finished
  · rw [if_pos hF]
    refine ⟨⟨fun _ => hF, fun _ => rfl⟩, ?_, fun _ => nofun⟩
    rintro ⟨t, ht, hw⟩; rw [hF t ht] at hw; cases hw
  · rw [if_neg hF]
    by_cases hW : ∃ t ∈ (m.comp c).tasks, l.tstate t = .working
    · rw [if_pos hW]; exact ⟨⟨nofun, fun h' => absurd h' hF⟩, fun _ => rfl, fun _ => nofun⟩
    · rw [if_neg hW]
      by_cases hR : ∃ t ∈ (m.comp c).tasks, l.tstate t = .ready
      · rw [if_pos hR]
        exact ⟨⟨nofun, fun h' => absurd h' hF⟩, fun h' => absurd h' hW, fun _ => nofun⟩
      · -- `compNext` keeps `l.cstate c`: the one case that reads the hypothesis
        rw [if_neg hR]
        refine ⟨⟨h c hc, fun h' => absurd h' hF⟩, fun h' => absurd h' hW, ?_⟩
        rintro ⟨t, ht, hr | hw⟩
        · exact absurd ⟨t, ht, hr⟩ hR
        · exact absurd ⟨t, ht, hw⟩ hW

theorem CompInv_compCheck {l0 l : Live} (h : CompInv m l0) (hm : Mono l0.tstate l.tstate)
    (hc : l.cstate = l0.cstate) : CompInv m (compCheck m l) :=
  CompInv_compCheck_of_weak m l fun c hlt hf t ht =>
    Mono.finished hm ((h c hlt).1.mp (hc ▸ hf) t ht)

theorem CompInv_congr {l l' : Live} (h : CompInv m l) (ht : l'.tstate = l.tstate)
    (hc : l'.cstate = l.cstate) : CompInv m l' := by
  unfold CompInv at h ⊢
  rw [ht, hc]; exact h

theorem compNext_ne_none (l : Live) (c : Nat) (h : l.cstate c ≠ .none) : compNext m l c ≠ .none := by
  rw [compNext_eq]
  split
  · nofun
  · split
    · nofun
    · split
      · nofun
      · exact h

theorem compCheck_ne_none (l : Live) (c : Nat) (h : l.cstate c ≠ .none) :
    (compCheck m l).cstate c ≠ .none := by
  rw [compCheck_cstate]
  split
  · exact compNext_ne_none m l c h
  · exact h

theorem CompInv_update (time : Nat) (l : Live) (h : CompInv m l) : CompInv m (update m time l) := by
  unfold update
  have h1 : CompInv m (compCheck m (chkFinished m l)) :=
    CompInv_compCheck m h (chkFinished_mono m l) (chkFinished_cstate m l)
  have h2 : CompInv m (compCheck m (chkReady m (chkRemove m (compCheck m (chkFinished m l))))) := by
    refine CompInv_compCheck m h1 ?_ (by rw [chkReady_cstate, chkRemove_cstate])
    rw [← chkRemove_tstate m (compCheck m (chkFinished m l))]
    exact chkReady_mono m _
  exact CompInv_congr m h2 (pert_tstate m _ _) (pert_cstate m _ _)

theorem CompInv_stepBody (p : Params) (s : St) (h : CompInv m s.live) :
    CompInv m (stepBody m p s).live := by
  rw [stepBody_live]
  have h1 : CompInv m (preWorking m p s) :=
    CompInv_congr m h (preWorking_tstate m p s) (preWorking_cstate m p s)
  have h2 : CompInv m (compCheck m (chkWorkingIf (startGuard p s) m (preWorking m p s))) :=
    CompInv_compCheck m h1 (chkWorkingIf_start m _ _).mono (chkWorkingIf_cstate m _ _)
  exact CompInv_congr m h2 (perform_tstate m _ _ _) (perform_cstate m _ _ _)

theorem CompInv_loopInv (p : Params) : LoopInv m p (fun s => CompInv m s.live) :=
  .of_live (CompInv_update m) (CompInv_stepBody m p)

theorem CompInv_fin_absorb {a b : Live} (ha : CompInv m a) (hb : CompInv m b)
    (hm : Mono a.tstate b.tstate) (c : Nat) (hc : c < m.nC) (hf : a.cstate c = .finished) :
    b.cstate c = .finished :=
  (hb c hc).1.mpr fun t ht => Mono.finished hm ((ha c hc).1.mp hf t ht)

theorem update_noBack (time : Nat) (l : Live) (c : Nat) (h : l.cstate c ≠ .none) :
    (update m time l).cstate c ≠ .none := by
  unfold update
  rw [pert_cstate]
  apply compCheck_ne_none
  rw [chkReady_cstate, chkRemove_cstate]
  apply compCheck_ne_none
  rw [chkFinished_cstate]; exact h

theorem stepBody_noBack (p : Params) (s : St) (c : Nat) (h : s.live.cstate c ≠ .none) :
    (stepBody m p s).live.cstate c ≠ .none := by
  rw [stepBody_live, perform_cstate]
  apply compCheck_ne_none
  rw [chkWorkingIf_cstate, preWorking_cstate]; exact h

/-- `b` is not behind `a` for components: FINISHED stays FINISHED, non-NONE stays non-NONE -/
def _root_.PDesy.CompForward (m : Model) (a b : St) : Prop :=
  ∀ c, c < m.nC →
    (a.live.cstate c = .finished → b.live.cstate c = .finished) ∧
    (a.live.cstate c ≠ .none → b.live.cstate c ≠ .none)

theorem _root_.PDesy.CompForward.refl (m : Model) (a : St) : CompForward m a a :=
  fun _ _ => ⟨id, id⟩

theorem _root_.PDesy.CompForward.trans {m : Model} {a b c : St} (hab : CompForward m a b)
    (hbc : CompForward m b c) : CompForward m a c := fun k hk =>
  ⟨fun hf => (hbc k hk).1 ((hab k hk).1 hf), fun hn => (hbc k hk).2 ((hab k hk).2 hn)⟩

theorem CompForward_updated (s : St) (hs : CompInv m s.live) : CompForward m s (updated m s) :=
  fun c hc =>
  ⟨CompInv_fin_absorb m hs (CompInv_update m s.time s.live hs) (update_mono m s.time s.live) c hc,
    update_noBack m s.time s.live c⟩

theorem CompForward_stepBody (p : Params) (s : St) (hs : CompInv m s.live) :
    CompForward m s (stepBody m p s) := fun c hc =>
  ⟨CompInv_fin_absorb m hs (CompInv_stepBody m p s hs) (stepBody_mono m p s) c hc,
    stepBody_noBack m p s c⟩

/-! The loop is entered with what `initProject` leaves: every allocation list empty, every task NONE,
READY or (exempt) FINISHED, the component states set by `initComps`. -/

theorem initLive_tstate (both : Bool) (l : Live) (t : Nat) :
    (initLive m both l).tstate t =
      (if both && decide ((m.task t).prog ≥ 1) then TS.finished else TS.none) := by
  rw [initLive_eq]

theorem initLive_none (both : Bool) (l : Live) (t : Nat) (hex : ¬ exempt m t) :
    (initLive m both l).tstate t = .none := by
  rw [initLive_tstate]
  unfold exempt at hex
  simp [hex]

theorem DepInv_initLive (both : Bool) (l : Live) : DepInv m (initLive m both l).tstate := by
  intro t ht hex
  rw [initLive_none m both l t hex]
  exact ⟨fun h => absurd rfl h, fun h => by cases h⟩

theorem initComps_frame (l : Live) :
    initComps m l = { l with cstate := (initComps m l).cstate, placed := fun _ => Option.none } := by
  unfold initComps
  rw [compCheck_eq]

theorem CompInv_initComps (l : Live) : CompInv m (initComps m l) := by
  unfold initComps
  apply CompInv_compCheck_of_weak
  exact fun c _ hf => nomatch hf

theorem initProject_live (logInfo : Bool) (s : St) :
    (initProject m true logInfo s).live =
      initComps m (chkReady m (pert m 0 { initLive m logInfo s.live with cpl := 0 })) := by
  unfold initProject
  cases logInfo <;> rfl

theorem initProject_tstate (logInfo : Bool) (s : St) :
    (initProject m true logInfo s).live.tstate =
      (chkReady m (pert m 0 { initLive m logInfo s.live with cpl := 0 })).tstate := by
  rw [initProject_live, initComps_frame]

/-- what `initialize` clears: `initLive` the allocation lists, the resource states and the workplace
lists, `initComps` the placement -/
theorem initProject_cleared (logInfo : Bool) (s : St) :
    (initProject m true logInfo s).live =
      { (initProject m true logInfo s).live with
        allocW := fun _ => [], allocF := fun _ => [], wasg := fun _ => [], fasg := fun _ => [],
        wstate := fun _ => .free, fstate := fun _ => .free,
        placed := fun _ => Option.none, wpComps := fun _ => [] } := by
  have e := initProject_live m logInfo s
  have hp := pert_frame m 0 { initLive m logInfo s.live with cpl := 0 }
  -- with `pert …` as a variable the rewrites below act on a small term
  generalize pert m 0 _ = q at e hp
  rw [initComps_frame, chkReady_eq, hp] at e
  rw [e]
  rfl

/-- the live state `initialize(state_info=True, …)` leaves reads nothing of the old one: `initLive`
resets every field but the two component fields, which PERT and `chkReady` carry along unread and
`initComps` overwrites -/
theorem initProject_live_indep (both : Bool) (s s' : St) :
    (initProject m true both s').live = (initProject m true both s).live := by
  have e : ({ initLive m both s'.live with cpl := 0 } : Live) =
      { ({ initLive m both s.live with cpl := 0 } : Live) with
        cstate := s'.live.cstate, placed := s'.live.placed } := by unfold initLive; rfl
  rw [initProject_live, initProject_live, e, pert_with_comp]
  generalize pert m 0 { initLive m both s.live with cpl := 0 } = P
  rw [chkReady_eq, chkReady_eq]
  unfold initComps
  rfl

theorem enter_live (p : Params) (s : St) :
    (enter m p s).live = (initProject m p.initState p.initLog s).live := rfl

theorem enter_live_continue {p : Params} (hp : p.initState = false) (s : St) :
    (enter m p s).live = s.live := by
  rw [enter_live, hp]
  unfold initProject
  cases p.initLog <;> rfl

theorem enter_live_init {p : Params} (hp : p.initState = true) (s : St) :
    (enter m p s).live = (initProject m true p.initLog s).live := by
  rw [enter_live, hp]

theorem enter_eq {p : Params} (hs : p.initState = true) (hl : p.initLog = true) (s : St) :
    enter m p s =
      { live := (initProject m true true s).live, logs := Logs.empty, time := 0, status := .none,
        mode := .forward, absence := p.absence, autoFlag := p.autoFlag } := by
  simp only [enter, initProject, hs, hl, if_true, clearLogs]

/-- no hypothesis on `s`: `initLive` resets every index, inside the ranges of the model or not -/
theorem enter_live_empty {p : Params} (hp : p.initState = true) (s : St) :
    (∀ t, (enter m p s).live.allocW t = []) ∧ (∀ t, (enter m p s).live.allocF t = []) ∧
    (∀ w, (enter m p s).live.wasg w = []) ∧ (∀ f, (enter m p s).live.fasg f = []) := by
  rw [enter_live_init m hp, initProject_cleared]
  exact ⟨fun _ => rfl, fun _ => rfl, fun _ => rfl, fun _ => rfl⟩

theorem enter_shape {p : Params} (hp : p.initState = true) (s : St) (t : Nat) (hex : ¬ exempt m t) :
    (enter m p s).live.tstate t = .none ∨
    ((enter m p s).live.tstate t = .ready ∧ readyGate m (enter m p s).live.tstate t = true) := by
  rw [enter_live_init m hp, initProject_tstate]
  rcases chkReady_cases m _ t with e | ⟨_, e, hg⟩
  · left; rw [e, pert_tstate]; exact initLive_none m p.initLog s.live t hex
  · exact Or.inr ⟨e, readyGate_mono m (chkReady_mono m _) t hg⟩

/-- tasks whose default progress is complete are FINISHED from the start when the logs
are initialised too (`both`), which is why they are exempt -/
theorem enter_exempt {p : Params} (hs : p.initState = true) (hl : p.initLog = true) (s : St)
    (t : Nat) (hex : exempt m t) : (enter m p s).live.tstate t = .finished := by
  rw [enter_live_init m hs, hl, initProject_tstate]
  refine Mono.finished (chkReady_mono m _) ?_
  rw [pert_tstate]
  show (initLive m true s.live).tstate t = .finished
  rw [initLive_tstate]
  unfold exempt at hex
  simp [hex]

theorem DepInv_enter {p : Params} (hp : p.initState = true) (s : St) :
    DepInv m (enter m p s).live.tstate := by
  rw [enter_live_init m hp, initProject_tstate]
  apply DepInv_chkReady
  exact DepInv_initLive m p.initLog s.live

theorem CompInv_enter {p : Params} (hp : p.initState = true) (s : St) :
    CompInv m (enter m p s).live := by
  rw [enter_live_init m hp, initProject_live]; exact CompInv_initComps m _

/-- The model of the `example`s of C01 and C14.  Three tasks: `1` after `0` finish-to-start, `2`
after `0` start-to-start and after `1` finish-to-finish; `3` is complete by default (exempt) and is
a start-to-finish predecessor of `2`.  One team with one worker who can do everything; one
component made of tasks 0, 1, 2 and one component without tasks. -/
def exM : Model where
  nT := 4
  nW := 1
  nF := 0
  nTeam := 1
  nWp := 0
  nC := 2
  task := fun t =>
    match t with
    | 0 => { name := 0, work := 2, outputs := [(1, .fs), (2, .ss)], comp := some 0 }
    | 1 => { name := 1, work := 1, inputs := [(0, .fs)], outputs := [(2, .ff)], comp := some 0 }
    | 2 => { name := 2, work := 1, inputs := [(0, .ss), (1, .ff), (3, .sf)], comp := some 0 }
    | _ => { name := 3, work := 1, prog := 1, outputs := [(2, .sf)] }
  worker := fun _ => { team := 0, skills := [(0, 1), (1, 1), (2, 1), (3, 1)] }
  fac := fun _ => {}
  team := fun _ => { workers := [0], targets := [0, 1, 2, 3] }
  wp := fun _ => {}
  comp := fun c => match c with | 0 => { tasks := [0, 1, 2] } | _ => {}

/-- a mid-run task-state vector: 0 FINISHED, 1 WORKING, 2 READY, 3 (exempt) FINISHED -/
def exTs : Nat → TS := fun t =>
  match t with
  | 0 => .finished | 1 => .working | 2 => .ready | _ => .finished

/-- a mid-run state: component 0 WORKING, the empty component 1 FINISHED -/
def exSt : St :=
  { St.fresh with live := { Live.empty with tstate := exTs,
                                            cstate := fun c => if c = 0 then .working else .finished } }

theorem exM_run :
    (simulate exM {} St.fresh).status = .success ∧ (runTrace exM {} St.fresh).length = 4 ∧
    (simulate exM {} St.fresh).live.cstate 0 = .finished ∧
    (simulate exM {} St.fresh).live.cstate 1 = .finished := by
  simp only [Fast.simulate_fast, Fast.runTrace_fast]; decide +kernel

/-! Nothing in the library rests on what follows; the names are end results of the development and
stay. -/

theorem startGuard_of_flag (p : Params) (s : St) (h : p.autoFlag = true) :
    startGuard p s = true := by simp [startGuard, h]

theorem startGuard_false (p : Params) (s : St) (h : startGuard p s = false) :
    p.absence.contains s.time = true ∧ p.autoFlag = false := by
  simpa [startGuard] using h

theorem stepBody_live_active (p : Params) (s : St) (h : startGuard p s = true) :
    (stepBody m p s).live =
      perform m (!(p.absence.contains s.time)) p.autoFlag
        (compCheck m (chkWorking m (preWorking m p s))) := by
  rw [stepBody_live, h]; rfl

theorem stepBody_live_inactive (p : Params) (s : St) (h : startGuard p s = false) :
    (stepBody m p s).live =
      perform m (!(p.absence.contains s.time)) p.autoFlag (compCheck m (preWorking m p s)) := by
  rw [stepBody_live, h]; rfl

end Lifecycle
end PDesy
